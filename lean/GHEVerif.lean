-- GENERATED by translate/gen.py: root of the `GHEVerif` library (every module present).
import GHEVerif.Model.Api
import GHEVerif.Model.Cli
import GHEVerif.Model.Config
import GHEVerif.Model.Constrained
import GHEVerif.Model.Coords
import GHEVerif.Model.Domains
import GHEVerif.Model.EquivTube
import GHEVerif.Model.Flow
import GHEVerif.Model.GJoin
import GHEVerif.Model.Hybrid
import GHEVerif.Model.Pipeline
import GHEVerif.Model.Polygon
import GHEVerif.Model.Py
import GHEVerif.Model.Radial
import GHEVerif.Model.Report
import GHEVerif.Model.RowWise
import GHEVerif.Model.Search
import GHEVerif.Model.Superpose
import GHEVerif.Model.TimeConv
import GHEVerif.Gen.Api
import GHEVerif.Gen.Cli
import GHEVerif.Gen.Constrained
import GHEVerif.Gen.EquivTubeConsts
import GHEVerif.Gen.Flow
import GHEVerif.Gen.Funcs
import GHEVerif.Gen.GJoinConsts
import GHEVerif.Gen.HybridConsts
import GHEVerif.Gen.Keys
import GHEVerif.Gen.Polygon
import GHEVerif.Gen.RadialConsts
import GHEVerif.Gen.Report
import GHEVerif.Gen.RowWise
import GHEVerif.Gen.Schemas
import GHEVerif.Gen.SimConsts
import GHEVerif.Gen.Tables
import GHEVerif.Lemmas.Api
import GHEVerif.Lemmas.Config
import GHEVerif.Lemmas.ConfigAttr
import GHEVerif.Lemmas.Constrained
import GHEVerif.Lemmas.Coords
import GHEVerif.Lemmas.Domains
import GHEVerif.Lemmas.EquivTube
import GHEVerif.Lemmas.Flow
import GHEVerif.Lemmas.GJoin
import GHEVerif.Lemmas.HybridCal
import GHEVerif.Lemmas.HybridDur
import GHEVerif.Lemmas.HybridHorizon
import GHEVerif.Lemmas.HybridMonth
import GHEVerif.Lemmas.HybridSplit
import GHEVerif.Lemmas.Pipeline
import GHEVerif.Lemmas.Polygon
import GHEVerif.Lemmas.Py
import GHEVerif.Lemmas.Radial
import GHEVerif.Lemmas.RowWise
import GHEVerif.Lemmas.Search
import GHEVerif.Lemmas.SearchNested
import GHEVerif.Lemmas.SearchRowWise
import GHEVerif.Lemmas.Sums
import GHEVerif.Lemmas.Superpose
import GHEVerif.Lemmas.TimeConv
import GHEVerif.Props.C01
import GHEVerif.Props.C02
import GHEVerif.Props.C03
import GHEVerif.Props.C04
import GHEVerif.Props.C05
import GHEVerif.Props.C06
import GHEVerif.Props.C07
import GHEVerif.Props.C08
import GHEVerif.Props.C09
import GHEVerif.Props.C10
import GHEVerif.Props.C11
import GHEVerif.Props.C12
import GHEVerif.Props.C13
import GHEVerif.Props.C14
import GHEVerif.Props.C15
import GHEVerif.Props.C16
import GHEVerif.Props.C17
import GHEVerif.Props.C18
import GHEVerif.Props.C19
import GHEVerif.Props.C20
