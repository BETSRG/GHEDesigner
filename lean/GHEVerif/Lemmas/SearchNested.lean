/- `Bisection2D` / `BisectionZD`: a nested selection is the selection of `Bisection1D.search` on the
   chosen inner list. -/
import GHEVerif.Lemmas.Search

namespace GHEVerif.Search
open GHEVerif

theorem pyPrev_lt {n key l : Nat} (h : pyPrev n key = some l) : l < n := by
  unfold pyPrev at h
  split_ifs at h <;> cases h <;> omega

theorem bisect2D_selected {nc : List (List Nat)} {E2 : Nat → Nat → Rat → Rat} {cfg : Cfg}
    {l k : Nat} {hh : Rat} {tr : Trace2} (h : bisect2D nc E2 cfg = (.selected l k hh, tr)) :
    l < nc.length ∧ ∃ p tr', bisect1D (nc.getD l []) (E2 l) cfg = (.selected k hh p, tr') := by
  unfold bisect2D at h
  split at h
  · cases h
  · simp only at h
    split at h
    · cases h
    · cases h
    · split at h
      · cases h
      · rename_i hp
        split at h
        · cases h
        · cases h
        · rename_i hr2
          cases h
          exact ⟨pyPrev_lt hp, _, _, Prod.ext hr2 rfl⟩

/-- Every recorded entry is (list, 1D selection on it, count × sized height). -/
def DoneOK (nc : List (List Nat)) (E2 : Nat → Nat → Rat → Rat) (sz : Nat → Nat → Rat) (cfg : Cfg)
    (done : List (Nat × Nat × Rat)) : Prop :=
  ∀ e ∈ done, e.1 < nc.length ∧
    (∃ h1 p tr', bisect1D (nc.getD e.1 []) (E2 e.1) cfg = (.selected e.2.1 h1 p, tr')) ∧
    e.2.2 = ((nc.getD e.1 []).getD e.2.1 0 : Nat) * sz e.1 e.2.1

theorem zdLoop_done (nc : List (List Nat)) (E2 : Nat → Nat → Rat → Rat) (sz : Nat → Nat → Rat) (cfg : Cfg)
    (maxI : Nat) : ∀ fuel st, DoneOK nc E2 sz cfg st.done →
      DoneOK nc E2 sz cfg (zdLoop nc E2 sz cfg maxI fuel st).1.done := by
  intro fuel
  induction fuel with
  | zero => intro st h; exact h
  | succ f ih =>
    intro st h
    unfold zdLoop
    split
    · exact h
    · rename_i hc
      simp only
      split
      · exact h
      · exact h
      · rename_i k h1 p hr
        have hnew : DoneOK nc E2 sz cfg (st.done ++ [(st.i, k, ((nc.getD st.i []).getD k 0 : Nat) * sz st.i k)]) := by
          intro e he
          rcases List.mem_append.mp he with he | he
          · exact h e he
          · cases List.mem_singleton.mp he
            exact ⟨(not_not.mp hc).1, ⟨h1, p, _, Prod.ext hr rfl⟩, rfl⟩
        split
        · exact hnew
        · exact ih _ hnew

theorem argMinTotal_mem {l : List (Nat × Nat × Rat)} {m : Nat × Nat × Rat} (h : argMinTotal l = some m) :
    m ∈ l ∧ ∀ e ∈ l, m.2.2 ≤ e.2.2 := by
  cases l with
  | nil => cases h
  | cons x rest =>
    obtain rfl := Option.some.inj h
    refine foldl_argmin_spec (α := Nat × Nat × Rat) (fun e => e.2.2) _ (fun m y => ?_) rest x
    by_cases h : y.2.2 < m.2.2
    · exact Or.inr ⟨by simp only [h, if_true], h.le⟩
    · exact Or.inl ⟨by simp only [h, if_false], not_lt.mp h⟩

/-- The per-list results `search_successive` records: `bisectZD` up to the point where it takes their
    minimum, repeated so that the minimality can be stated. -/
def zdDone (nc : List (List Nat)) (E2 : Nat → Nat → Rat → Rat) (sz : Nat → Nat → Rat) (cfg : Cfg) :
    List (Nat × Nat × Rat) :=
  match outerCounts nc with
  | none => []
  | some oc =>
    match (bisect1D oc (outerE nc E2) cfg).1 with
    | .selected key _ _ =>
      let start := if key > 0 then key - 1 else key
      (zdLoop nc E2 sz cfg (start + 7) (nc.length + 1)
        { i := start, old := 99999, done := [], trace := tag none (bisect1D oc (outerE nc E2) cfg).2 }).1.done
    | _ => []

theorem bisectZD_selected {nc : List (List Nat)} {E2 : Nat → Nat → Rat → Rat} {sz : Nat → Nat → Rat} {cfg : Cfg}
    {l k : Nat} {hh : Rat} {tr : Trace2} (h : bisectZD nc E2 sz cfg = (.selected l k hh, tr)) :
    hh = sz l k ∧ l < nc.length ∧
      (∃ h1 p tr', bisect1D (nc.getD l []) (E2 l) cfg = (.selected k h1 p, tr')) ∧
      (l, k, ((nc.getD l []).getD k 0 : Nat) * sz l k) ∈ zdDone nc E2 sz cfg ∧
      (∀ e ∈ zdDone nc E2 sz cfg, ((nc.getD l []).getD k 0 : Nat) * sz l k ≤ e.2.2) := by
  unfold bisectZD at h
  unfold zdDone
  split at h
  · cases h
  · rename_i ho
    simp only [ho] at h ⊢
    split at h
    · cases h
    · cases h
    · rename_i hr1
      simp only [hr1]
      generalize hz : zdLoop nc E2 sz cfg _ _ _ = z at h ⊢
      have hdone : DoneOK nc E2 sz cfg z.1.done :=
        hz ▸ zdLoop_done nc E2 sz cfg _ _ _ (fun e he => by cases he)
      obtain ⟨st, err⟩ := z
      split at h
      · cases h
      · split at h
        · cases h
        · rename_i ha
          cases h
          obtain ⟨hmem, hmin⟩ := argMinTotal_mem ha
          obtain ⟨d1, d2, d3⟩ := hdone _ hmem
          exact ⟨rfl, d1, d2, d3 ▸ hmem, fun e he => d3 ▸ hmin e he⟩

end GHEVerif.Search
