/-
  What `Props/C13.lean` rests on: the words of its statements, then three simulation arguments —
  one GHE (`Eqv`, `gstep_eqv`), one search object (`runSearch_sim`, under `Safe`), and managers with
  `Inv`, which relates the world a history leaves to the slots read off it (`inv_step`).
-/
import GHEVerif.Model.Api
import Mathlib.Tactic.SplitIfs
namespace GHEVerif.Api
open GHEVerif

/-! ### The words of the C13 statements -/

/-- `Bisection1D.__init__` builds a GHE for field `f` at the height the borehole holds: no raise. -/
def CtorOk (K : Kernels) (st : Static) (D rb h0 : Rat) (f : FieldId) : Prop :=
  (K.gcalcOk st f D rb h0 && K.buildOk st f D rb h0) = true

/-- `Safe ok false t`: `t` begins with constructor calls `ctor f`, each with `ok f`, then raises,
    evaluates or initialises: it neither returns nor sizes an object built at the height found.
    With the flag `true` nothing is asked (`safe_true`). -/
inductive Safe (ok : FieldId → Prop) : Bool → Search → Prop
  | ret (f : FieldId) : Safe ok true (.ret f)
  | raise (b : Bool) (e : PyErr) : Safe ok b (.raise e)
  | ctorU (f : FieldId) (k : Search) : ok f → Safe ok false k → Safe ok false (.ctor f k)
  | ctorK (f : FieldId) (k : Search) : Safe ok true k → Safe ok true (.ctor f k)
  | eval (b : Bool) (f : FieldId) (h : Rat) (k : Rat → Search) : (∀ v, Safe ok true (k v)) → Safe ok b (.eval f h k)
  | init (b : Bool) (f : FieldId) (h : Rat) (k : Search) : Safe ok true k → Safe ok b (.init f h k)
  | sizeCur (k : Rat → Search) : (∀ v, Safe ok true (k v)) → Safe ok true (.sizeCur k)

theorem safe_true (ok : FieldId → Prop) (t : Search) : Safe ok true t := by
  induction t with
  | ret f => exact .ret f
  | raise e => exact .raise _ e
  | ctor f k ih => exact .ctorK f k ih
  | eval f h k ih => exact .eval _ f h k ih
  | init f h k ih => exact .init _ f h k ih
  | sizeCur k ih => exact .sizeCur k ih

/-- Height currently held by the borehole object manager `m` refers to. -/
def boreHeight (w : World) (m : Nat) : Option Rat :=
  ((w.mgrs[m]?).bind (·.bh)).bind (fun r => (w.heap[r]?).map (·.H))

def okUnit {α : Type} : Py α → Py Unit
  | .ok _ => .ok ()
  | .error e => .error e

/-! ### One GHE -/

theorem rebuilt_eq {α : Type} [DecidableEq α] (tb : Option α) (want : α) :
    (if tb = some want then tb.getD want else want) = want := by
  split_ifs with h
  · rw [h]; rfl
  · rfl

theorem lookupCore_reset (hs : List Rat) (tb : Option (Kind × Fill)) (h : Rat) :
    (lookupCore hs tb h).1 = (lookupCore hs none h).1 := by
  match hs with
  | [] => rfl
  | [h0] =>
      simp only [lookupCore]
      split_ifs <;> rfl
  | h0 :: h1 :: t => simp only [lookupCore, rebuilt_eq]

theorem lookupCore_table (hs : List Rat) (tb : Option (Kind × Fill)) (h : Rat) :
    (lookupCore hs tb h).2 =
      match hs with
      | _ :: _ :: _ => some (kindOf hs.length, fillOf hs h)
      | _ => tb := by
  match hs with
  | [] => rfl
  | [h0] =>
    simp only [lookupCore]
    split_ifs <;> rfl
  | h0 :: h1 :: t =>
    simp only [lookupCore, rebuilt_eq]
    split_ifs <;> rfl

theorem lookup_heights (gf : GF) (h : Rat) : (lookup gf h).2.heights = gf.heights := rfl

theorem lookup_tok (gf : GF) (h : Rat) : (lookup gf h).2.tok = gf.tok := rfl

/-- The objects agree in what a call reads before overwriting it; they may differ in what earlier
    calls left behind (interpolation table, time axis, stored results, trace). -/
structure Eqv (g g' : GHE) : Prop where
  st : g.st = g'.st
  field : g.field = g'.field
  hLoad : g.hLoad = g'.hLoad
  heights : g.gf.heights = g'.gf.heights
  tok : g.gf.tok = g'.gf.tok

theorem simulate_eqv (K : Kernels) (b : BH) {g g' : GHE} (m : Method) (he : Eqv g g') :
    ∃ o g1 g1', simulate K b g m = (o, g1) ∧ simulate K b g' m = (o, g1') ∧ Eqv g1 g1' ∧
      ∀ t, o = .ok t → g1.last = g1'.last := by
  obtain ⟨h1, h2, h3, h4, h5⟩ := he
  unfold simulate lookup
  rw [lookupCore_reset g.gf.heights, lookupCore_reset g'.gf.heights, ← h1, ← h2, ← h3, ← h4, ← h5]
  -- `hourlyAxis` is generalised before any case split: exposed to a reduction step, the kernel
  -- evaluates its Nat literals (8759, 8760) on an open term, one `succ` at a time
  generalize hourlyAxis g.st = nq, (lookupCore g.gf.heights none b.H).1 = o
  obtain ⟨n, q⟩ := nq
  by_cases hz : b.H = 0
  · rw [if_pos hz, if_pos hz]
    exact ⟨_, _, _, rfl, rfl, ⟨h1, h2, h3, h4, h5⟩, fun _ h => by cases h⟩
  · rw [if_neg hz, if_neg hz]
    cases o with
    | error e => exact ⟨_, _, _, rfl, rfl, ⟨rfl, rfl, rfl, rfl, rfl⟩, fun _ h => by cases h⟩
    | ok look =>
      cases m with
      | hybrid => exact ⟨_, _, _, rfl, rfl, ⟨rfl, rfl, rfl, rfl, rfl⟩, fun _ _ => rfl⟩
      | hourly =>
        dsimp only
        split_ifs
        · exact ⟨_, _, _, rfl, rfl, ⟨rfl, rfl, rfl, rfl, rfl⟩, fun _ h => by cases h⟩
        · exact ⟨_, _, _, rfl, rfl, ⟨rfl, rfl, rfl, rfl, rfl⟩, fun _ _ => rfl⟩
      | other => exact ⟨_, _, _, rfl, rfl, ⟨rfl, rfl, rfl, rfl, rfl⟩, fun _ h => by cases h⟩

/-- Same outcome, same borehole, `Eqv` objects (an existential, so that `obtain` names them). -/
def Rel3 {α : Type} (r r' : Py α × BH × GHE) : Prop :=
  ∃ o b g g', r = (o, b, g) ∧ r' = (o, b, g') ∧ Eqv g g'

theorem objective_eqv (K : Kernels) (m : Method) (h : Rat) (b : BH) {g g' : GHE} (he : Eqv g g') :
    Rel3 (objective K m h b g) (objective K m h b g') := by
  obtain ⟨o, g1, g1', h1, h2, e, _⟩ := simulate_eqv K { b with H := h } m he
  simp only [objective, ← he.st, h1, h2]
  cases o <;> exact ⟨_, _, _, _, rfl, rfl, e⟩

theorem runProbe_eqv (K : Kernels) (m : Method) (p : Probe) :
    ∀ (b : BH) {g g' : GHE}, Eqv g g' → Rel3 (runProbe K m p b g) (runProbe K m p b g') := by
  induction p with
  | ret x | raise e => intro b g g' he; exact ⟨_, _, _, _, rfl, rfl, he⟩
  | ask h k ih =>
    intro b g g' he
    obtain ⟨o, b1, g1, g1', h1, h2, e1⟩ := objective_eqv K m h b he
    simp only [runProbe, h1, h2]
    cases o with
    | error e => exact ⟨_, _, _, _, rfl, rfl, e1⟩
    | ok v => exact ih v b1 e1

theorem solveRoot_eqv (K : Kernels) (m : Method) (lo hi : Rat) (b : BH) {g g' : GHE} (he : Eqv g g') :
    Rel3 (solveRoot K m lo hi b g) (solveRoot K m lo hi b g') := by
  obtain ⟨o1, b1, g1, g1', h1, h1', e1⟩ := objective_eqv K m lo b he
  simp only [solveRoot, h1, h1']
  cases o1 with
  | error e => exact ⟨_, _, _, _, rfl, rfl, e1⟩
  | ok minus =>
    obtain ⟨o2, b2, g2, g2', h2, h2', e2⟩ := objective_eqv K m hi b1 e1
    simp only [h2, h2']
    cases o2 with
    | error e => exact ⟨_, _, _, _, rfl, rfl, e2⟩
    | ok plus =>
      simp only
      cases sgn minus with
      | error e => exact ⟨_, _, _, _, rfl, rfl, e2⟩
      | ok sm =>
        cases sgn plus with
        | error e => exact ⟨_, _, _, _, rfl, rfl, e2⟩
        | ok sp =>
          simp only
          split_ifs
          · exact runProbe_eqv K m _ b2 e2
          · exact ⟨_, _, _, _, rfl, rfl, e2⟩
          · exact ⟨_, _, _, _, rfl, rfl, e2⟩

theorem size_eqv (K : Kernels) (m : Method) (b : BH) {g g' : GHE} (he : Eqv g g') :
    ∃ o b1 g1 g1', size K m b g = (o, b1, g1) ∧ size K m b g' = (o, b1, g1') ∧ Eqv g1 g1' ∧
      ∀ u, o = .ok u → g1.last = g1'.last := by
  obtain ⟨o, b1, g1, g1', h1, h1', e1⟩ := solveRoot_eqv K m g.st.sim.minH g.st.sim.maxH
    { b with H := (g.st.sim.maxH + g.st.sim.minH) / 2 } he
  simp only [size, ← he.st, h1, h1']
  cases o with
  | error e => exact ⟨_, _, _, _, rfl, rfl, e1, fun _ h => by cases h⟩
  | ok x =>
    obtain ⟨o2, g2, g2', h2, h2', e2, hl⟩ := simulate_eqv K { b1 with H := x } m e1
    simp only [h2, h2']
    cases o2 with
    | error e => exact ⟨_, _, _, _, rfl, rfl, e2, fun _ h => by cases h⟩
    | ok t => exact ⟨_, _, _, _, rfl, rfl, e2, fun _ _ => hl t rfl⟩

theorem computeG_eqv (K : Kernels) (b : BH) {g g' : GHE} (he : Eqv g g') :
    ∃ o g1 g1', computeG K b g = (o, g1) ∧ computeG K b g' = (o, g1') ∧ Eqv g1 g1' := by
  obtain ⟨h1, h2, h3, h4, h5⟩ := he
  simp only [computeG, h1, h2]
  split_ifs
  · exact ⟨_, _, _, rfl, rfl, ⟨rfl, rfl, h3, rfl, rfl⟩⟩
  · exact ⟨_, _, _, rfl, rfl, ⟨h1, h2, h3, h4, h5⟩⟩

def RelS (s s' : GSt) : Prop := s.b = s'.b ∧ Eqv s.g s'.g

theorem RelS.refl (s : GSt) : RelS s s := ⟨rfl, rfl, rfl, rfl, rfl, rfl⟩

/-- `resetG` clears only what `Eqv` does not look at. -/
theorem relS_reset {s s' : GSt} (hr : RelS s s') : RelS s (resetS s') :=
  ⟨hr.1, hr.2.st, hr.2.field, hr.2.hLoad, hr.2.heights, hr.2.tok⟩

theorem gstep_eqv (K : Kernels) (op : GOp) {s s' : GSt} (hr : RelS s s') :
    (gstep K op s).1 = (gstep K op s').1 ∧ RelS (gstep K op s).2 (gstep K op s').2 := by
  obtain ⟨b, g⟩ := s
  obtain ⟨b', g'⟩ := s'
  obtain ⟨rfl, he⟩ := hr
  cases op with
  | setH h => exact ⟨rfl, rfl, he⟩
  | simulate m =>
    obtain ⟨o, g1, g1', h1, h2, e, _⟩ := simulate_eqv K b m he
    simp only [gstep, h1, h2]
    cases o <;> exact ⟨rfl, rfl, e⟩
  | size m =>
    obtain ⟨o, b1, g1, g1', h1, h2, e, hl⟩ := size_eqv K m b he
    simp only [gstep, h1, h2]
    cases o with
    | error _ => exact ⟨rfl, rfl, e⟩
    | ok u => simp only [hl u rfl]; exact ⟨trivial, rfl, e⟩
  | cgf =>
    obtain ⟨o, g1, g1', h1, h2, e⟩ := computeG_eqv K b he
    simp only [gstep, h1, h2]
    cases o <;> exact ⟨rfl, rfl, e⟩
  | setGF tok hs => exact ⟨rfl, rfl, ⟨he.st, he.field, he.hLoad, rfl, rfl⟩⟩

theorem gstep_reset (K : Kernels) (op : GOp) (s : GSt) : (gstep K op s).1 = (gstep K op (resetS s)).1 :=
  (gstep_eqv K op (relS_reset (RelS.refl s))).1

theorem runG_refines (K : Kernels) (ops : List GOp) :
    ∀ {s s' : GSt}, RelS s s' → (runG K ops s).1 = specG K ops s' := by
  induction ops with
  | nil => intro s s' _; rfl
  | cons op r ih =>
    intro s s' hr
    have h := gstep_eqv K op (relS_reset hr)
    simp only [runG, specG]
    rw [← h.1, ih h.2]

/-! ### One search object -/

/-- `s` found height `h0` in the shared borehole and holds at most a never-simulated object; the
    specification's `s'` knows neither. -/
structure Unknown (h0 : Rat) (s s' : SS) : Prop where
  hH : s.H = some h0
  spec : s' = { s with H := none, cur := none }
  htr : ∀ g, s.cur = some g → g.trace = []

theorem retire_unknown {h0 : Rat} {s s' : SS} (hu : Unknown h0 s s') : retire s = retire s' := by
  obtain ⟨_, rfl, ht⟩ := hu
  unfold retire
  cases hcur : s.cur with
  | none => rfl
  | some g => exact congrArg (s.log ++ ·) (ht g hcur)

theorem initGHE_unknown (K : Kernels) (st : Static) (f : FieldId) (h : Rat) {h0 : Rat} {s s' : SS} (hu : Unknown h0 s s') :
    ∃ o s1 s1', initGHE K st f h s = (o, s1) ∧ initGHE K st f h s' = (o, s1') ∧ (o = .ok () → s1 = s1') := by
  have hr := retire_unknown hu
  obtain ⟨_, rfl, _⟩ := hu
  simp only [initGHE, ← hr]
  split_ifs
  · exact ⟨_, _, _, rfl, rfl, fun h => by cases h⟩
  · exact ⟨_, _, _, rfl, rfl, fun _ => rfl⟩
  · exact ⟨_, _, _, rfl, rfl, fun h => by cases h⟩

/-- While the states differ (`Unknown`) the tree is in its `Safe ok false` prefix of constructor
    calls.  The first `initialize_ghe` overwrites height and object: from then on the two states are
    *equal* and nothing more is needed.  The flag is an index of `Safe`, hence `b = false`. -/
theorem runSearch_sim {K : Kernels} {st : Static} {h0 D rb : Rat} {t : Search} {b : Bool}
    (hs : Safe (CtorOk K st D rb h0) b t) :
    ∀ (s s' : SS), b = false → Unknown h0 s s' → s.D = D → s.rb = rb →
      ∃ o s1 s1', runSearch K st t s = (o, s1) ∧ runSearch K st t s' = (o, s1') ∧ ∀ f, o = .ok f → s1 = s1' := by
  induction hs with
  | ret f | ctorK f k _ _ | sizeCur k _ _ => intro s s' hb; cases hb
  | raise b e => intro s s' _ _ _ _; exact ⟨_, _, _, rfl, rfl, fun f h => by cases h⟩
  | ctorU f k hok _ ih =>
    intro s s' _ hu hD hrb
    have hr := retire_unknown hu
    obtain ⟨hH, rfl, _⟩ := hu
    have : (K.gcalcOk st f s.D s.rb h0 && K.buildOk st f s.D s.rb h0) = true := by rw [hD, hrb]; exact hok
    simp only [runSearch, hH, this, if_true]
    exact ih _ _ rfl ⟨rfl, by rw [hr], fun g hg => by cases hg; rfl⟩ hD hrb
  | eval b f h k _ _ | init b f h k _ _ =>
    intro s s' _ hu _ _
    obtain ⟨o, s1, s1', h1, h2, e⟩ := initGHE_unknown K st f h hu
    simp only [runSearch, h1, h2]
    cases o with
    | error e => exact ⟨_, _, _, rfl, rfl, fun f h => by cases h⟩
    | ok u => cases e rfl; exact ⟨_, _, _, rfl, rfl, fun _ _ => rfl⟩

theorem designFrom_indep (K : Kernels) {cfg : Config} {h0 : Rat}
    (hs : Safe (CtorOk K cfg.st cfg.D cfg.rb h0) false (K.strategy cfg)) :
    ∃ s1, designFrom K cfg { H := some h0, D := cfg.D, rb := cfg.rb, cur := none, log := [] } = (design K cfg, s1) ∧
      ∀ r, design K cfg = .ok r → s1.H = some r.H := by
  obtain ⟨o, s1, s1', h1, h2, e⟩ := runSearch_sim hs
    { H := some h0, D := cfg.D, rb := cfg.rb, cur := none, log := [] } _ rfl ⟨rfl, rfl, fun g h => by cases h⟩ rfl rfl
  simp only [design, designFrom, h1, h2]
  cases o with
  | error e => exact ⟨_, rfl, fun r h => by cases h⟩
  | ok f =>
    cases e f rfl
    dsimp only
    refine ⟨_, rfl, fun r => ?_⟩
    split
    · split
      · nofun  -- `compute_g_functions` raises
      · split
        · nofun  -- `size` raises
        · exact fun h => by cases h; rfl
    · nofun  -- no height or no object

/-! ### What a call can do to the world -/

theorem setDesign_cases (K : Kernels) (m : Nat) (flow : Rat) (ft : FlowType) (w : World) :
    (∃ e, setDesign K m flow ft w = (.error e, w)) ∨
    ∃ mg d, w.mgrs[m]? = some mg ∧
      setDesign K m flow ft w = (.ok (), { w with mgrs := w.mgrs.set m { mg with design := some d } }) := by
  unfold setDesign
  split
  · exact .inl ⟨_, rfl⟩  -- no such manager
  · split_ifs
    · exact .inl ⟨_, rfl⟩  -- flow type
    · split
      · exact .inl ⟨_, rfl⟩  -- no geometry
      · split_ifs
        · exact .inr ⟨_, _, ‹_›, rfl⟩  -- stored
        · exact .inl ⟨_, rfl⟩  -- generation raises

theorem findDesign_world (K : Kernels) (m : Nat) (w : World) :
    (findDesign K m w).2 = w ∨
    ∃ mg r cell x, w.mgrs[m]? = some mg ∧ w.heap[r]? = some cell ∧
      ((findDesign K m w).2 = { w with heap := w.heap.set r { cell with H := x } } ∨
       ∃ res, (findDesign K m w).2 =
        { w with heap := w.heap.set r { cell with H := x }, mgrs := w.mgrs.set m { mg with search := some res } }) := by
  unfold findDesign
  split
  · exact .inl rfl  -- no such manager
  · split_ifs
    · exact .inl rfl  -- not ready
    · split
      · exact .inl rfl  -- no design
      · split
        · split
          · exact .inl rfl  -- dangling reference
          · dsimp only
            split
            · exact .inr ⟨_, _, _, _, ‹_›, ‹_›, .inl rfl⟩  -- the search raises
            · exact .inr ⟨_, _, _, _, ‹_›, ‹_›, .inr ⟨_, rfl⟩⟩  -- it succeeds
        · exact .inl rfl  -- a captured `None`

theorem step_cases (K : Kernels) (op : Op) (w : World) (hop : ∀ m, op ≠ .findDesign m) :
    (∃ e, step K op w = (.error e, w)) ∨ ∃ heap' mgrs', step K op w = (.ok (), { w with heap := heap', mgrs := mgrs' }) := by
  have upd : ∀ m f, (∃ e, updMgr w m f = (.error e, w)) ∨
      ∃ heap' mgrs', updMgr w m f = (.ok (), { w with heap := heap', mgrs := mgrs' }) := by
    intro m f
    unfold updMgr
    cases w.mgrs[m]? with
    | none => exact .inl ⟨_, rfl⟩
    | some mg => exact .inr ⟨_, _, rfl⟩
  cases op with
  | newManager => exact .inr ⟨_, _, rfl⟩
  | setGrout m _ | setSoil m _ | setPipe m _ _ | setSim m _ | setLoads m _ | setGeom m _ => exact upd m _
  | setPipeType m x | setGeomType m x =>
    cases x with
    | none => simp only [step]; cases w.mgrs[m]? <;> exact .inl ⟨_, rfl⟩
    | some _ => exact upd m _
  | setFluid m v =>
    simp only [step]
    split_ifs
    · exact upd m _
    · cases w.mgrs[m]? <;> exact .inl ⟨_, rfl⟩
  | setBorehole m _ _ _ =>
    simp only [step]
    cases w.mgrs[m]? with
    | none => exact .inl ⟨_, rfl⟩
    | some mg => exact .inr ⟨_, _, rfl⟩
  | setDesign m flow ft =>
    rcases setDesign_cases K m flow ft w with h | ⟨_, _, _, h⟩
    · exact .inl h
    · exact .inr ⟨_, _, h⟩
  | findDesign m => exact absurd rfl (hop m)

theorem step_keepContour (K : Kernels) (op : Op) (w : World) : (step K op w).2.keepContour = w.keepContour := by
  by_cases hop : ∃ m, op = .findDesign m
  · obtain ⟨m, rfl⟩ := hop
    rcases findDesign_world K m w with h | ⟨mg, r, cell, x, _, _, h | ⟨res, h⟩⟩ <;> rw [step, h]
  · rcases step_cases K op w fun m h => hop ⟨m, h⟩ with ⟨e, h⟩ | ⟨_, _, h⟩ <;> rw [h]

/-! ### Histories -/

theorem runOps_append (K : Kernels) (h1 h2 : List Op) : ∀ w : World, runOps K (h1 ++ h2) w = runOps K h2 (runOps K h1 w) := by
  induction h1 with
  | nil => intro w; rfl
  | cons op r ih => intro w; simp only [List.cons_append, runOps]; exact ih _

theorem runOps_keepContour (K : Kernels) (hist : List Op) (w : World) :
    (runOps K hist w).keepContour = w.keepContour := by
  induction hist generalizing w with
  | nil => rfl
  | cons op r ih => simp only [runOps]; rw [ih, step_keepContour]

theorem lastSlots_design (K : Kernels) (m m' : Nat) (flow : Rat) (ft : FlowType) (hist : List Op) (a : Nat × Slots) :
    lastSlots K m (hist ++ [.setDesign m' flow ft, .findDesign m']) a = lastSlots K m hist a := by
  induction hist generalizing a with
  | nil => obtain ⟨n, s⟩ := a; simp only [List.nil_append, lastSlots, countStep, slotsStep, ite_self]
  | cons op r ih => obtain ⟨n, s⟩ := a; exact ih _

/-- `n` managers; manager `m`, if it exists, holds the slots `s` (borehole dereferenced, height
    dropped); every borehole reference is valid. -/
structure Inv (m : Nat) (w : World) (n : Nat) (s : Slots) : Prop where
  len : w.mgrs.length = n
  slots : ∀ (mg : Manager), w.mgrs[m]? = some mg → absSlots w mg = s
  fresh : n ≤ m → s = {}
  refs : ∀ (i : Nat) (mg : Manager) (r : Nat), w.mgrs[i]? = some mg → mg.bh = some r → r < w.heap.length

theorem Inv.heap {m : Nat} {w : World} {n : Nat} {s : Slots} (hi : Inv m w n s) {heap' : List BH}
    (h : ∀ r, r < w.heap.length →
      (heap'[r]?).map (fun c => (c.D, c.rb)) = (w.heap[r]?).map (fun c => (c.D, c.rb))) :
    Inv m { w with heap := heap' } n s := by
  refine ⟨hi.len, fun mg hmg => ?_, hi.fresh, fun i mg r hmg hb => ?_⟩
  · rw [← hi.slots mg hmg]
    unfold absSlots
    congr 1
    cases hb : mg.bh with
    | none => rfl
    | some r => exact h r (hi.refs m mg r hmg hb)
  · have hr := hi.refs i mg r hmg hb
    have := h r hr
    rw [List.getElem?_eq_getElem hr] at this
    obtain ⟨c, hc, _⟩ := Option.map_eq_some_iff.mp this
    exact (List.getElem?_eq_some_iff.mp hc).1

/-- The conclusions of `Inv.setMgr` and `Inv.setter` have the shape of `slotsStep`, so that `inv_step`
    applies them by unification. -/
theorem Inv.setMgr {m : Nat} {w : World} {n : Nat} {s : Slots} (hi : Inv m w n s) {m' : Nat} (mg'' : Manager)
    {s' : Slots} (hbh : ∀ r, mg''.bh = some r → r < w.heap.length) (hs : m' = m → absSlots w mg'' = s') :
    Inv m { w with mgrs := w.mgrs.set m' mg'' } n (if n ≤ m then s else if m' = m then s' else s) := by
  refine ⟨by rw [← hi.len]; exact List.length_set,
    fun mg (hmg : (w.mgrs.set m' mg'')[m]? = some mg) => ?_, fun h => by rw [if_pos h]; exact hi.fresh h,
    fun i mg r (hmg : (w.mgrs.set m' mg'')[i]? = some mg) hb => ?_⟩
  · have hmn := (List.getElem?_eq_some_iff.mp hmg).1
    rw [List.length_set, hi.len] at hmn
    rw [if_neg (Nat.not_le_of_lt hmn)]
    rw [List.getElem?_set] at hmg
    split_ifs at hmg with h1
    · cases hmg; rw [if_pos h1]; exact hs h1
    · rw [if_neg h1]; exact hi.slots mg hmg
  · rw [List.getElem?_set] at hmg
    split_ifs at hmg
    · cases hmg; exact hbh r hb
    · exact hi.refs i mg r hmg hb

theorem Inv.setMgr_same {m : Nat} {w : World} {n : Nat} {s : Slots} (hi : Inv m w n s) {m' : Nat} {mg' : Manager}
    (hm' : w.mgrs[m']? = some mg') {mg'' : Manager} (hbh : mg''.bh = mg'.bh) (hs : absSlots w mg'' = absSlots w mg') :
    Inv m { w with mgrs := w.mgrs.set m' mg'' } n s := by
  have := hi.setMgr (m' := m') mg'' (s' := s) (fun r hr => hi.refs m' mg' r hm' (by rw [← hbh, hr]))
    (fun h => by rw [hs, hi.slots mg' (h ▸ hm')])
  simpa only [ite_self] using this

theorem Inv.skip {m : Nat} {w : World} {n : Nat} {s : Slots} (hi : Inv m w n s) {m' : Nat}
    (hm' : w.mgrs[m']? = none) {s' : Slots} : Inv m w n (if n ≤ m then s else if m' = m then s' else s) := by
  rw [List.getElem?_eq_none_iff, hi.len] at hm'
  have : (if n ≤ m then s else if m' = m then s' else s) = s := by
    split_ifs with h1 h2
    · rfl
    · omega
    · rfl
  rw [this]; exact hi

theorem Inv.setter {m : Nat} {w : World} {n : Nat} {s : Slots} (hi : Inv m w n s) (m' : Nat) {f : Manager → Manager}
    {s' : Slots} (hbh : ∀ mg, (f mg).bh = mg.bh) (hs : ∀ mg, absSlots w mg = s → absSlots w (f mg) = s') :
    Inv m (updMgr w m' f).2 n (if n ≤ m then s else if m' = m then s' else s) := by
  unfold updMgr
  cases hm' : w.mgrs[m']? with
  | none => exact hi.skip hm'
  | some mg' =>
    exact hi.setMgr (f mg') (fun r hr => hi.refs m' mg' r hm' (by rw [← hbh, hr]))
      (fun h => hs mg' (hi.slots mg' (h ▸ hm')))

theorem Inv.newManager {m : Nat} {w : World} {n : Nat} {s : Slots} (hi : Inv m w n s) :
    Inv m { w with mgrs := w.mgrs ++ [{}] } (n + 1) s := by
  have key : ∀ i mg, (w.mgrs ++ [({} : Manager)])[i]? = some mg →
      w.mgrs[i]? = some mg ∨ (w.mgrs.length ≤ i ∧ mg = {}) := by
    intro i mg h
    rw [List.getElem?_append] at h
    split_ifs at h with hlt
    · exact .inl h
    · exact .inr ⟨Nat.le_of_not_lt hlt, List.mem_singleton.mp (List.mem_of_getElem? h)⟩
  refine ⟨by rw [← hi.len]; exact List.length_append, fun mg h => ?_, fun h => hi.fresh (Nat.le_of_succ_le h),
    fun i mg r h hb => ?_⟩
  · rcases key m mg h with h | ⟨hle, rfl⟩
    · exact hi.slots mg h
    · rw [hi.fresh (hi.len ▸ hle)]; rfl
  · rcases key i mg h with h | ⟨_, rfl⟩
    · exact hi.refs i mg r h hb
    · cases hb

theorem inv_step (K : Kernels) (op : Op) {m : Nat} {w : World} {n : Nat} {s : Slots} (hi : Inv m w n s) :
    Inv m (step K op w).2 (countStep op n) (slotsStep K m op n s) := by
  cases op with
  | newManager => simp only [slotsStep, ite_self]; exact hi.newManager
  | setGrout m' _ | setSoil m' _ | setPipe m' _ _ | setSim m' _ | setLoads m' _ | setGeom m' _ =>
    refine hi.setter m' (fun _ => rfl) (fun _ h => ?_)
    subst h; rfl
  | setFluid m' v =>
    simp only [step, slotsStep, countStep]
    cases K.fluidOk v with
    | true =>
      simp only [if_true, and_true]
      refine hi.setter m' (fun _ => rfl) (fun _ h => ?_)
      subst h; rfl
    | false =>
      simp only [Bool.false_eq_true, and_false, if_false, ite_self]
      cases w.mgrs[m']? <;> exact hi
  | setPipeType m' pt =>
    cases pt with
    | none => simp only [step, slotsStep, ite_self]; cases w.mgrs[m']? <;> exact hi
    | some pt =>
      refine hi.setter m' (fun _ => rfl) (fun _ h => ?_)
      subst h; rfl
  | setGeomType m' k =>
    simp only [slotsStep, ite_self]
    cases k with
    | none => simp only [step]; cases w.mgrs[m']? <;> exact hi
    | some k =>
      have := hi.setter m' (f := fun mg => { mg with geomType := some k }) (fun _ => rfl) (fun _ h => h)
      rwa [ite_self, ite_self] at this
  | setBorehole m' h d dia =>
    simp only [step, slotsStep, countStep]
    cases hm' : w.mgrs[m']? with
    | none => exact hi.skip hm'
    | some mg' =>
      have hw : Inv m { w with heap := w.heap ++ [{ H := h, D := d, rb := dia / 2 }] } n s :=
        hi.heap fun r hr => by rw [List.getElem?_append_left hr]
      exact hw.setMgr { mg' with bh := some w.heap.length } (fun r hr => by cases hr; simp)
        (fun hmm => by rw [← hi.slots mg' (hmm ▸ hm')]; simp [absSlots])
  | setDesign m' flow ft =>
    simp only [slotsStep, ite_self, step, countStep]
    rcases setDesign_cases K m' flow ft w with ⟨e, h⟩ | ⟨mg', d, hm', h⟩ <;> rw [h]
    · exact hi
    · exact hi.setMgr_same hm' rfl rfl
  | findDesign m' =>
    simp only [slotsStep, ite_self, step, countStep]
    rcases findDesign_world K m' w with h | ⟨mg', r, cell, x, hm', hc, h⟩
    · rw [h]; exact hi
    · have hw : Inv m { w with heap := w.heap.set r { cell with H := x } } n s :=
        hi.heap fun r' hr' => by
          by_cases h1 : r = r'
          · subst h1; rw [List.getElem?_set_self hr', hc]; rfl
          · rw [List.getElem?_set_ne h1]
      rcases h with h | ⟨res, h⟩ <;> rw [h]
      · exact hw
      · exact hw.setMgr_same hm' rfl rfl

theorem inv_runOps (K : Kernels) {m : Nat} (hist : List Op) :
    ∀ {w : World} {n : Nat} {s : Slots}, Inv m w n s →
      Inv m (runOps K hist w) (lastSlots K m hist (n, s)).1 (lastSlots K m hist (n, s)).2 := by
  induction hist with
  | nil => intro w n s hi; exact hi
  | cons op _ ih => intro w n s hi; exact ih (inv_step K op hi)

theorem inv_history (K : Kernels) (m : Nat) (hist : List Op) :
    Inv m (runOps K hist {}) (lastSlots K m hist (0, {})).1 (lastSlots K m hist (0, {})).2 :=
  inv_runOps K hist ⟨rfl, fun mg h => (by cases h), fun _ => rfl, fun i mg r h _ => (by cases h)⟩

/-! ### `find_design` -/

theorem findDesign_config (K : Kernels) (w : World) (m : Nat) {mg : Manager} {d : Snapshot} {st : Static} {r : Nat} {cell : BH}
    (hm : w.mgrs[m]? = some mg) (hready : mg.ready = true) (hd : mg.design = some d) (hst : d.static? = some st)
    (hr : d.bh = some r) (hc : w.heap[r]? = some cell) {cfg : Config}
    (hcfg : cfg = { st := st, geom := d.geom, D := cell.D, rb := cell.rb, keepContour := d.keepContour })
    (hs : Safe (CtorOk K cfg.st cfg.D cfg.rb cell.H) false (K.strategy cfg)) :
    (findDesign K m w).1 = okUnit (design K cfg) ∧
    ∀ rs, design K cfg = .ok rs →
      resultOf (findDesign K m w).2 m = some rs ∧ ((findDesign K m w).2.heap[r]?).map (·.H) = some rs.H := by
  obtain ⟨s1, h1, e2⟩ := designFrom_indep K hs
  subst hcfg
  have hmlt : m < w.mgrs.length := (List.getElem?_eq_some_iff.mp hm).1
  have hrlt : r < w.heap.length := (List.getElem?_eq_some_iff.mp hc).1
  simp only [findDesign, hm, hready, hd, hst, hr, hc, Bool.not_true, Bool.false_eq_true, if_false, h1]
  cases hdes : design K { st := st, geom := d.geom, D := cell.D, rb := cell.rb, keepContour := d.keepContour } with
  | error e => exact ⟨rfl, fun rs h => by cases h⟩
  | ok rs =>
    refine ⟨rfl, fun rs' h => ?_⟩
    cases h
    simp only [resultOf, e2 rs hdes, Option.getD_some]
    constructor
    · simp [hmlt]
    · simp [hrlt]

/-- The `Design*` object `set_design` builds. -/
def snapOf (mg : Manager) (flow : Rat) (ft : FlowType) (ge : Geom) (kc : List Bool) : Snapshot :=
  { flow := flow, flowType := ft, bh := mg.bh, pipeType := mg.pipeType, fluid := mg.fluid, pipe := mg.pipe,
    grout := mg.grout, soil := mg.soil, sim := mg.sim, geom := ge, loads := mg.loads, keepContour := kc }

/-- In any world: histories enter `find_design_pure` only through `Inv`. -/
theorem setDesign_findDesign (K : Kernels) {w : World} (m : Nat) {mg : Manager} (flow : Rat) (ft : FlowType) {cfg : Config}
    (hm : w.mgrs[m]? = some mg) (hcfg : (absSlots w mg).config? flow ft w.keepContour = some cfg)
    (hft : ft ≠ .other) (hgeom : K.geomOk cfg.geom w.keepContour = true) (hloads : 0 < cfg.st.loads.len)
    (hsafe : ∀ h0, boreHeight w m = some h0 → Safe (CtorOk K cfg.st cfg.D cfg.rb h0) false (K.strategy cfg)) :
    (step K (.findDesign m) (step K (.setDesign m flow ft) w).2).1 = okUnit (design K cfg) ∧
    ∀ rs, design K cfg = .ok rs →
      resultOf (step K (.findDesign m) (step K (.setDesign m flow ft) w).2).2 m = some rs := by
  unfold Slots.config? at hcfg
  split at hcfg
  · -- nine slot contents, then `aᵢ : (absSlots w mg).x = some _`, in the order of `Slots.config?`
    rename_i fl pi gr so pt lo sp d rb ge a1 a2 a3 a4 a5 a6 a7 a8 a9
    cases hcfg
    simp only [absSlots] at a1 a2 a3 a4 a5 a6 a7 a8 a9
    have hmlt : m < w.mgrs.length := (List.getElem?_eq_some_iff.mp hm).1
    obtain ⟨r, hr, cell, hc, hcell⟩ : ∃ r, mg.bh = some r ∧ ∃ cell, w.heap[r]? = some cell ∧ (cell.D, cell.rb) = (d, rb) := by
      simpa only [Option.bind_eq_some_iff, Option.map_eq_some_iff] using a8
    cases hcell
    have hw1 : (step K (.setDesign m flow ft) w).2 =
        { w with mgrs := w.mgrs.set m { mg with design := some (snapOf mg flow ft ge w.keepContour) } } := by
      simp only [step, setDesign, hm, hft, if_false, a9, hgeom, if_true, snapOf]
    rw [hw1]
    have key := findDesign_config K { w with mgrs := w.mgrs.set m { mg with design := some (snapOf mg flow ft ge w.keepContour) } }
      m (List.getElem?_set_self hmlt)
      (by simp [Manager.ready, a1, a2, a3, a4, a6, a7, a9, hr, loadsTruthy, hloads]) rfl
      (by simp only [snapOf, Snapshot.static?, a1, a2, a3, a4, a5, a6, a7]) hr hc rfl
      (hsafe cell.H (by simp [boreHeight, hm, hr, hc]))
    exact ⟨key.1, fun rs h => (key.2 rs h).1⟩
  · cases hcfg

end GHEVerif.Api
