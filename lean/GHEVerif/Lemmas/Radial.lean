/-
  Lemmas for C10 (short-time radial model, Model/Radial.lean): the cell table as five spans that tile
  the radius; one implicit step on index functions (`StepEq`: energy balance, minimum and comparison
  principle) and the bridge to it from the lists `assemble` / `rhs` build; `interpAt` / `linspace`
  resampling; exactness of the model's Thomas elimination under row diagonal dominance; positivity of
  the whole table from valid inputs.
-/
import GHEVerif.Model.Radial
import Mathlib.Tactic.Linarith
import Mathlib.Tactic.Ring
import Mathlib.Tactic.FieldSimp
import Mathlib.Tactic.Positivity
import Mathlib.Tactic.LinearCombination
import Mathlib.Data.List.Chain
import Mathlib.Data.List.Basic
import Mathlib.Data.List.GetD
import Mathlib.Data.Finset.Max
import Mathlib.Algebra.BigOperators.Group.List.Basic
import Mathlib.Algebra.BigOperators.Group.Finset.Basic
import Mathlib.Algebra.BigOperators.Ring.Finset
import Mathlib.Algebra.Field.Basic
import Mathlib.Algebra.CharZero.Defs
import Mathlib.Algebra.Order.Field.Basic

namespace GHEVerif.Radial
open List

section CellTable
variable {K : Type}

/-- `l` tiles `[a, b]`: the first cell starts at `a`, consecutive cells share a face, the last one
    ends at `b`. -/
def Tiles : List (Cell K) → K → K → Prop
  | [], a, b => a = b
  | c :: l, a, b => c.rIn = a ∧ Tiles l c.rOut b

theorem tiles_cons {c : Cell K} {l : List (Cell K)} {a b : K} : Tiles (c :: l) a b ↔ c.rIn = a ∧ Tiles l c.rOut b :=
  Iff.rfl

theorem Tiles.append : ∀ {l l' : List (Cell K)} {a b c : K}, Tiles l a b → Tiles l' b c → Tiles (l ++ l') a c
  | [], _, _, _, _, h, h' => by obtain rfl : _ = _ := h; exact h'
  | _ :: _, _, _, _, _, h, h' => tiles_cons.mpr ⟨h.1, h.2.append h'⟩

theorem Tiles.chain : ∀ {l : List (Cell K)} {a b : K}, Tiles l a b → IsChain (fun c d : Cell K => c.rOut = d.rIn) l
  | [], _, _, _ => .nil
  | [_], _, _, _ => .singleton _
  | _ :: _ :: _, _, _, h => .cons_cons h.2.1.symm h.2.chain

theorem Tiles.head {l : List (Cell K)} {a b : K} (h : Tiles l a b) : ∀ c ∈ l.head?, c.rIn = a := by
  cases l with
  | nil => simp
  | cons d l => simpa using h.1

theorem Tiles.last : ∀ {l : List (Cell K)} {a b : K}, Tiles l a b → ∀ c ∈ l.getLast?, c.rOut = b
  | [], _, _, _ => by simp
  | [d], _, _, h => by simpa using (show d.rOut = _ from h.2)
  | _ :: d :: l, _, _, h => by rw [List.getLast?_cons_cons]; exact h.2.last

theorem Tiles.sum_telescope {A : Type} [AddCommGroup A] (F : K → A) (f : Cell K → A) :
    ∀ {l : List (Cell K)} {a b : K}, Tiles l a b → (∀ c ∈ l, f c = F c.rOut - F c.rIn) → (l.map f).sum = F b - F a
  | [], _, _, h, _ => by obtain rfl : _ = _ := h; simp
  | c :: l, _, _, h, hf => by
    rw [List.map_cons, List.sum_cons, hf c (List.mem_cons_self ..),
      h.2.sum_telescope F f fun d hd => hf d (List.mem_cons_of_mem _ hd), h.1, sub_add_sub_cancel']

variable [Field K]

@[simp] theorem regionCells_length (E : Env K) (r0 t k rc : K) (n : Nat) :
    (regionCells E r0 t k rc n).length = n := by simp [regionCells]

theorem regionCells_succ (E : Env K) (r0 t k rc : K) (n : Nat) :
    regionCells E r0 t k rc (n + 1) = regionCells E r0 t k rc n ++ [fillSingleCell E (r0 + (n : K) * t) t k rc] := by
  simp [regionCells, List.range_succ]

theorem regionCells_getElem (E : Env K) (r0 t k rc : K) (n j : Nat) (h : j < (regionCells E r0 t k rc n).length) :
    (regionCells E r0 t k rc n)[j] = fillSingleCell E (r0 + (j : K) * t) t k rc := by
  simp [regionCells]

theorem mem_regionCells {E : Env K} {r0 t k rc : K} {n : Nat} {c : Cell K} (h : c ∈ regionCells E r0 t k rc n) :
    ∃ j : ℕ, c = fillSingleCell E (r0 + (j : K) * t) t k rc := by
  obtain ⟨j, hj, rfl⟩ := List.getElem_of_mem h
  exact ⟨j, regionCells_getElem ..⟩

theorem regionCells_tiles (E : Env K) (r0 t k rc : K) : ∀ n : ℕ, Tiles (regionCells E r0 t k rc n) r0 (r0 + (n : K) * t)
  | 0 => by simp [regionCells, Tiles]
  | n + 1 => by
    rw [regionCells_succ]
    exact (regionCells_tiles E r0 t k rc n).append
      (tiles_cons.mpr ⟨rfl, show _ = _ by simp only [fillSingleCell]; push_cast; ring⟩)

theorem regionCells_mass_sum (E : Env K) (r0 t k rc : K) (n : Nat) :
    ((regionCells E r0 t k rc n).map (fun c => c.rhoCp * c.vol)).sum
      = rc * (E.pi * ((r0 + (n : K) * t) * (r0 + (n : K) * t) - r0 * r0)) := by
  rw [(regionCells_tiles E r0 t k rc n).sum_telescope (fun r => rc * (E.pi * (r * r))) _ fun c hc => ?_, mul_sub, mul_sub]
  obtain ⟨j, rfl⟩ := mem_regionCells hc
  simp only [fillSingleCell, mul_sub]

/-- `n` cells of equal thickness between the radii `r0` and `r1`: what each of the five loops of
    `fill_radial_cells` builds. -/
def span (E : Env K) (r0 r1 k rc : K) (n : ℕ) : List (Cell K) := regionCells E r0 ((r1 - r0) / (n : K)) k rc n

@[simp] theorem span_length (E : Env K) (r0 r1 k rc : K) (n : ℕ) : (span E r0 r1 k rc n).length = n :=
  regionCells_length ..

theorem span_end {n : ℕ} (hn : (n : K) ≠ 0) (r0 r1 : K) : r0 + (n : K) * ((r1 - r0) / (n : K)) = r1 := by
  field_simp; ring

theorem span_tiles {E : Env K} {r0 r1 k rc : K} {n : ℕ} (hn : (n : K) ≠ 0) : Tiles (span E r0 r1 k rc n) r0 r1 := by
  have := regionCells_tiles E r0 ((r1 - r0) / (n : K)) k rc n
  rwa [span_end hn] at this

theorem span_mass_sum {E : Env K} {r0 r1 k rc : K} {n : ℕ} (hn : (n : K) ≠ 0) :
    ((span E r0 r1 k rc n).map (fun c => c.rhoCp * c.vol)).sum = rc * (E.pi * (r1 * r1 - r0 * r0)) := by
  rw [span, regionCells_mass_sum, span_end hn]

theorem core_eq_spans (E : Env K) (C : Counts) (x : Inputs K) (rf rpg : K) :
    fillRadialCellsCore E C x rf rpg
      = span E (geometry E C x).rFluid (geometry E C x).rConv ((Gen.Radial.conductivityFluid : ℕ) : K)
          (rhoCpEqFluid x (geometry E C x)) C.nFluid
        ++ span E (geometry E C x).rConv (geometry E C x).rInTube (kConv E (geometry E C x) rf) (ofRat Gen.Radial.rhoCpConv) C.nConv
        ++ span E (geometry E C x).rInTube (geometry E C x).rOutTube (kPipeGrout E (geometry E C x) rpg) x.rcPipe C.nPipe
        ++ span E (geometry E C x).rOutTube x.rB (kPipeGrout E (geometry E C x) rpg) x.rcGrout C.nGrout
        ++ span E x.rB (geometry E C x).rFar x.kSoil x.rcSoil C.nSoil := rfl

def Counts.Pos (C : Counts) : Prop := 0 < C.nFluid ∧ 0 < C.nConv ∧ 0 < C.nPipe ∧ 0 < C.nGrout ∧ 0 < C.nSoil

theorem core_length (E : Env K) (C : Counts) (x : Inputs K) (rf rpg : K) :
    (fillRadialCellsCore E C x rf rpg).length = C.total := by
  simp [core_eq_spans, Counts.total, Nat.add_assoc]

theorem core_tiles [CharZero K] (E : Env K) (C : Counts) (hC : C.Pos) (x : Inputs K) (rf rpg : K) :
    Tiles (fillRadialCellsCore E C x rf rpg) (geometry E C x).rFluid (geometry E C x).rFar := by
  obtain ⟨h1, h2, h3, h4, h5⟩ := hC
  rw [core_eq_spans]
  exact ((((span_tiles (Nat.cast_ne_zero.mpr h1.ne')).append (span_tiles (Nat.cast_ne_zero.mpr h2.ne'))).append
    (span_tiles (Nat.cast_ne_zero.mpr h3.ne'))).append (span_tiles (Nat.cast_ne_zero.mpr h4.ne'))).append
    (span_tiles (Nat.cast_ne_zero.mpr h5.ne'))

theorem core_region_starts (E : Env K) (C : Counts) (hC : C.Pos) (x : Inputs K) (rf rpg : K) :
    ((fillRadialCellsCore E C x rf rpg)[C.nFluid]?.map (·.rIn) = some (geometry E C x).rConv) ∧
    ((fillRadialCellsCore E C x rf rpg)[C.nFluid + C.nConv]?.map (·.rIn) = some (geometry E C x).rInTube) ∧
    ((fillRadialCellsCore E C x rf rpg)[C.nFluid + C.nConv + C.nPipe]?.map (·.rIn) = some (geometry E C x).rOutTube) ∧
    ((fillRadialCellsCore E C x rf rpg)[C.bhWall]?.map (·.rIn) = some x.rB) := by
  obtain ⟨_, h2, h3, h4, h5⟩ := hC
  rw [core_eq_spans]
  -- each index is the length of the spans before it: cell 0 of the next span
  simp [span, regionCells_getElem, fillSingleCell, Counts.bhWall, Nat.add_assoc, h2, h3, h4, h5]

theorem mem_core {E : Env K} {C : Counts} {x : Inputs K} {rf rpg : K} {c : Cell K}
    (h : c ∈ fillRadialCellsCore E C x rf rpg) : ∃ r t k rc : K, c = fillSingleCell E r t k rc := by
  have key : ∀ {r0 t k rc : K} {n : ℕ}, c ∈ regionCells E r0 t k rc n → ∃ r t k rc : K, c = fillSingleCell E r t k rc :=
    fun h => (mem_regionCells h).elim fun _ hj => ⟨_, _, _, _, hj⟩
  simp only [fillRadialCellsCore, List.mem_append] at h
  rcases h with (((h | h) | h) | h) | h <;> exact key h

theorem core_center [CharZero K] (E : Env K) (C : Counts) (x : Inputs K) (rf rpg : K) :
    ∀ c ∈ fillRadialCellsCore E C x rf rpg, c.rC = (c.rIn + c.rOut) / 2 := by
  intro c hc
  obtain ⟨r, t, k, rc, rfl⟩ := mem_core hc
  simp only [fillSingleCell]
  push_cast
  field_simp
  ring

theorem core_temp_getD (E : Env K) (C : Counts) (x : Inputs K) (rf rpg : K) {i : ℕ}
    (hi : i < (fillRadialCellsCore E C x rf rpg).length) :
    ((fillRadialCellsCore E C x rf rpg).map (·.temp)).getD i 0 = ((Gen.Radial.initTemp : ℕ) : K) := by
  rw [List.getD_eq_getElem _ _ (by simpa using hi), List.getElem_map]
  obtain ⟨r, t, k, rc, h⟩ := mem_core (List.getElem_mem hi)
  rw [h]
  rfl

theorem core_take_fluid (E : Env K) (C : Counts) (x : Inputs K) (rf rpg : K) :
    (fillRadialCellsCore E C x rf rpg).take C.nFluid
      = span E (geometry E C x).rFluid (geometry E C x).rConv ((Gen.Radial.conductivityFluid : Nat) : K)
          (rhoCpEqFluid x (geometry E C x)) C.nFluid := by
  rw [core_eq_spans]
  simp only [List.append_assoc]
  exact List.take_left' (by simp)

theorem core_middle (E : Env K) (C : Counts) (x : Inputs K) (rf rpg : K) :
    ((fillRadialCellsCore E C x rf rpg).drop C.nFluid).take (C.nConv + C.nPipe + C.nGrout)
      = span E (geometry E C x).rConv (geometry E C x).rInTube (kConv E (geometry E C x) rf) (ofRat Gen.Radial.rhoCpConv) C.nConv
        ++ span E (geometry E C x).rInTube (geometry E C x).rOutTube (kPipeGrout E (geometry E C x) rpg) x.rcPipe C.nPipe
        ++ span E (geometry E C x).rOutTube x.rB (kPipeGrout E (geometry E C x) rpg) x.rcGrout C.nGrout := by
  rw [core_eq_spans]
  simp only [List.append_assoc]
  rw [List.drop_left' (by simp)]
  rw [← List.append_assoc, ← List.append_assoc]
  rw [List.take_left' (by simp; omega)]
  simp only [List.append_assoc]

theorem fillRadialCells_eq_ok (E : Env K) (C : Counts) (x : Inputs K) (rf rpg : K) (cells : List (Cell K))
    (h : fillRadialCells E C x rf rpg = .ok cells) : cells = fillRadialCellsCore E C x rf rpg := by
  unfold fillRadialCells at h
  split at h
  · exact absurd h (by simp)
  · injection h with h; exact h.symm

theorem twoPi_eq (E : Env K) : twoPi E = 2 * E.pi := by simp [twoPi]

/-- `k = L/(t r)` has the resistance `L/(t k) = r`: how `kConv`, `kPipeGrout` return the effective resistances. -/
theorem resist_of_cond {L t r : K} (hL : L ≠ 0) (ht : t ≠ 0) (hr : r ≠ 0) : L / (t * (L / (t * r))) = r := by
  field_simp

end CellTable

section Layers
variable {K : Type} [Field K] [LinearOrder K] [IsStrictOrderedRing K]

/-- The radial resistance of one cell. -/
def layerR (E : Env K) (c : Cell K) : K := E.log (c.rOut / c.rIn) / (2 * E.pi * c.k)

def LogDiv (E : Env K) : Prop := ∀ a b : K, 0 < a → 0 < b → E.log (a / b) = E.log a - E.log b

theorem regionCells_layer_sum (E : Env K) (hlog : LogDiv E) (r0 t k rc : K) (hr : 0 < r0) (ht : 0 ≤ t) (n : Nat) :
    ((regionCells E r0 t k rc n).map (layerR E)).sum
      = (E.log (r0 + (n : K) * t) - E.log r0) / (2 * E.pi * k) := by
  rw [(regionCells_tiles E r0 t k rc n).sum_telescope (fun r => E.log r / (2 * E.pi * k)) _ fun c hc => ?_, sub_div]
  obtain ⟨j, rfl⟩ := mem_regionCells hc
  simp only [layerR, fillSingleCell]
  rw [hlog _ _ (by positivity) (by positivity), sub_div]

theorem span_layer_sum {E : Env K} (hlog : LogDiv E) {r0 r1 k rc : K} (hr : 0 < r0) (h : r0 ≤ r1) {n : ℕ} (hn : 0 < n) :
    ((span E r0 r1 k rc n).map (layerR E)).sum = (E.log r1 - E.log r0) / (2 * E.pi * k) := by
  have hn' : (0 : K) < n := Nat.cast_pos.mpr hn
  rw [span, regionCells_layer_sum E hlog _ _ _ _ hr (div_nonneg (sub_nonneg.mpr h) hn'.le), span_end hn'.ne']

/-- The three spans telescope; `resist_of_cond` gives back `rf` and `rpg`. -/
theorem core_layers_sum (E : Env K) (hlog : LogDiv E) (C : Counts) (hC : C.Pos) (x : Inputs K) (rf rpg : K)
    (h0 : 0 < (geometry E C x).rConv) (h1 : (geometry E C x).rConv < (geometry E C x).rInTube)
    (h2 : (geometry E C x).rInTube ≤ (geometry E C x).rOutTube) (h3 : (geometry E C x).rOutTube ≤ x.rB)
    (hl1 : E.log ((geometry E C x).rInTube / (geometry E C x).rConv) ≠ 0)
    (hl2 : E.log (x.rB / (geometry E C x).rInTube) ≠ 0)
    (hpi : E.pi ≠ 0) (hrf : rf ≠ 0) (hrpg : rpg ≠ 0) :
    ((((fillRadialCellsCore E C x rf rpg).drop C.nFluid).take (C.nConv + C.nPipe + C.nGrout)).map (layerR E)).sum
      = rf + rpg := by
  have hIn : 0 < (geometry E C x).rInTube := h0.trans h1
  have hOut : 0 < (geometry E C x).rOutTube := hIn.trans_le h2
  have gB : (geometry E C x).rB = x.rB := rfl
  have htp : (2 : K) * E.pi ≠ 0 := mul_ne_zero two_ne_zero hpi
  rw [core_middle, List.map_append, List.map_append, List.sum_append, List.sum_append,
    span_layer_sum hlog h0 h1.le hC.2.1, span_layer_sum hlog hIn h2 hC.2.2.1,
    span_layer_sum hlog hOut h3 hC.2.2.2.1, add_assoc, ← add_div, sub_add_sub_cancel',
    ← hlog _ _ hIn h0, ← hlog _ _ (hOut.trans_le h3) hIn, kConv, kPipeGrout, twoPi_eq, gB,
    resist_of_cond hl1 htp hrf, resist_of_cond hl2 htp hrpg]

end Layers

section TablePos
variable {K : Type} [Field K] [LinearOrder K] [IsStrictOrderedRing K]

def LogPos (E : Env K) : Prop := ∀ x : K, 1 < x → 0 < E.log x

def CellOK (c : Cell K) : Prop := 0 < c.rIn ∧ c.rIn < c.rC ∧ c.rC < c.rOut ∧ 0 < c.k ∧ 0 < c.rhoCp ∧ 0 < c.vol

theorem fillSingleCell_ok (E : Env K) (hpi : 0 < E.pi) (inner thick k rc : K) (h1 : 0 < inner) (h2 : 0 < thick)
    (h3 : 0 < k) (h4 : 0 < rc) : CellOK (fillSingleCell E inner thick k rc) := by
  unfold CellOK fillSingleCell
  simp only [Nat.cast_ofNat]
  exact ⟨h1, lt_add_of_pos_right _ (half_pos h2), add_lt_add_right (half_lt_self h2) _, h3, h4,
    mul_pos hpi (sub_pos.mpr (mul_self_lt_mul_self h1.le (lt_add_of_pos_right _ h2)))⟩

theorem span_ok {E : Env K} (hpi : 0 < E.pi) {r0 r1 k rc : K} {n : ℕ} (h0 : 0 < r0) (h1 : r0 < r1)
    (h3 : 0 < k) (h4 : 0 < rc) : ∀ c ∈ span E r0 r1 k rc n, CellOK c := by
  intro c hc
  have hn : 0 < n := by rw [← span_length E r0 r1 k rc n]; exact List.length_pos_of_mem hc
  have ht : 0 < (r1 - r0) / (n : K) := div_pos (sub_pos.mpr h1) (Nat.cast_pos.mpr hn)
  obtain ⟨j, rfl⟩ := mem_regionCells hc
  exact fillSingleCell_ok E hpi _ _ _ _ (add_pos_of_pos_of_nonneg h0 (mul_nonneg (Nat.cast_nonneg j) ht.le)) ht h3 h4

theorem twoPi_pos (E : Env K) (hpi : 0 < E.pi) : 0 < twoPi E := by
  unfold twoPi; exact mul_pos (by simp) hpi

theorem LogPos.ratio {E : Env K} (hlog : LogPos E) {a b : K} (ha : 0 < a) (hab : a < b) : 0 < E.log (b / a) :=
  hlog _ ((one_lt_div ha).mpr hab)

/-- Validity of the inputs, stated on the inputs and the derived radii. -/
structure ValidInputs (E : Env K) (C : Counts) (x : Inputs K) (rf rpg : K) : Prop where
  pi_pos : 0 < E.pi
  counts : C.Pos
  rFluid_pos : 0 < (geometry E C x).rFluid          -- sqrt2·r_po − 2 (r_po − r_pi) > 0
  wall : x.rPi < x.rPo
  rPi_pos : 0 < x.rPi
  fits : (geometry E C x).rOutTube < x.rB           -- sqrt2·r_po < r_b
  far : x.rB < (geometry E C x).rFar                -- r_b < far-field radius
  rf_pos : 0 < rf
  rpg_pos : 0 < rpg
  kSoil_pos : 0 < x.kSoil
  rcSoil_pos : 0 < x.rcSoil
  rcGrout_pos : 0 < x.rcGrout
  rcPipe_pos : 0 < x.rcPipe
  rcFluid_pos : 0 < x.rcFluid

theorem geo_steps (E : Env K) (C : Counts) (x : Inputs K) :
    (geometry E C x).rConv = (geometry E C x).rFluid + 3 / 4 * (x.rPo - x.rPi) ∧
    (geometry E C x).rInTube = (geometry E C x).rConv + (x.rPo - x.rPi) / 4 ∧
    (geometry E C x).rOutTube = (geometry E C x).rInTube + (x.rPo - x.rPi) := by
  simp only [geometry]
  push_cast
  refine ⟨by ring, by ring, by ring⟩

theorem core_cells_ok (E : Env K) (hlog : LogPos E) (C : Counts) (x : Inputs K) (rf rpg : K)
    (hv : ValidInputs E C x rf rpg) : ∀ c ∈ fillRadialCellsCore E C x rf rpg, CellOK c := by
  obtain ⟨g1, g2, g3⟩ := geo_steps E C x
  have tw : 0 < x.rPo - x.rPi := sub_pos.mpr hv.wall
  have hF := hv.rFluid_pos
  have r1 : (geometry E C x).rFluid < (geometry E C x).rConv := g1 ▸ lt_add_of_pos_right _ (by positivity)
  have r2 : (geometry E C x).rConv < (geometry E C x).rInTube := g2 ▸ lt_add_of_pos_right _ (by positivity)
  have r3 : (geometry E C x).rInTube < (geometry E C x).rOutTube := g3 ▸ lt_add_of_pos_right _ tw
  have hC := hF.trans r1
  have hI := hC.trans r2
  have hO := hI.trans r3
  have tp := twoPi_pos E hv.pi_pos
  have k1 : (0 : K) < ((Gen.Radial.conductivityFluid : ℕ) : K) := Nat.cast_pos.mpr (by decide)
  have k2 : 0 < kConv E (geometry E C x) rf := div_pos (hlog.ratio hC r2) (mul_pos tp hv.rf_pos)
  have k3 : 0 < kPipeGrout E (geometry E C x) rpg :=
    div_pos (hlog.ratio hI (r3.trans hv.fits)) (mul_pos tp hv.rpg_pos)
  have c1 : 0 < rhoCpEqFluid x (geometry E C x) :=
    div_pos (mul_pos (mul_pos (by simp) (mul_pos hv.rPi_pos hv.rPi_pos)) hv.rcFluid_pos)
      (sub_pos.mpr (mul_self_lt_mul_self hF.le r1))
  have c2 : (0 : K) < ofRat Gen.Radial.rhoCpConv := by simp [ofRat, Gen.Radial.rhoCpConv]
  rw [core_eq_spans]
  simp only [List.forall_mem_append]
  exact ⟨⟨⟨⟨span_ok hv.pi_pos hF r1 k1 c1, span_ok hv.pi_pos hC r2 k2 c2⟩,
    span_ok hv.pi_pos hI r3 k3 hv.rcPipe_pos⟩, span_ok hv.pi_pos hO hv.fits k3 hv.rcGrout_pos⟩,
    span_ok hv.pi_pos (hO.trans hv.fits) hv.far hv.kSoil_pos hv.rcSoil_pos⟩

end TablePos

section Abstract
variable {K : Type} [Field K]

/-- One fully implicit step written on index functions.  Rows `0 … m` are unknowns' equations
    (`m + 1 = n - 1` cells carry an energy equation), node `m + 1` is the fixed far field.
    `κ i` is the conductance between cells `i` and `i+1`, `a i` the heat capacity of cell `i`
    divided by the time step, `q` the flux into cell 0. -/
structure StepEq (m : ℕ) (κ a : ℕ → K) (q : K) (T T' : ℕ → K) : Prop where
  row0 : (-κ 0 / a 0 - 1) * T' 0 + κ 0 / a 0 * T' 1 = -T 0 - q / a 0
  row : ∀ i, i < m →
    κ i / a (i + 1) * T' i + (-κ i / a (i + 1) - κ (i + 1) / a (i + 1) - 1) * T' (i + 1)
      + κ (i + 1) / a (i + 1) * T' (i + 2) = -T (i + 1)
  far : T' (m + 1) = T (m + 1)

theorem StepEq.flux0 {m : ℕ} {κ a : ℕ → K} {q : K} {T T' : ℕ → K} (h : StepEq m κ a q T T') (ha : a 0 ≠ 0) :
    a 0 * (T' 0 - T 0) = q - κ 0 * (T' 0 - T' 1) := by
  have := h.row0
  field_simp at this
  linear_combination (-1 : K) * this

theorem StepEq.flux {m : ℕ} {κ a : ℕ → K} {q : K} {T T' : ℕ → K} (h : StepEq m κ a q T T') (i : ℕ) (hi : i < m)
    (ha : a (i + 1) ≠ 0) :
    a (i + 1) * (T' (i + 1) - T (i + 1)) = κ i * (T' i - T' (i + 1)) - κ (i + 1) * (T' (i + 1) - T' (i + 2)) := by
  have := h.row i hi
  field_simp at this
  linear_combination (-1 : K) * this

/-- Energy balance of one step: what the cells `0 … m` gained (per unit time) is the flux
    put in at the core minus the flux leaving into the fixed far-field cell. -/
theorem StepEq.energy {m : ℕ} {κ a : ℕ → K} {q : K} {T T' : ℕ → K} (h : StepEq m κ a q T T')
    (ha : ∀ i, i ≤ m → a i ≠ 0) :
    ∑ i ∈ Finset.range (m + 1), a i * (T' i - T i) = q - κ m * (T' m - T' (m + 1)) := by
  have key : ∀ j, j ≤ m → ∑ i ∈ Finset.range (j + 1), a i * (T' i - T i) = q - κ j * (T' j - T' (j + 1)) := by
    intro j
    induction j with
    | zero => intro _; simp [h.flux0 (ha 0 (Nat.zero_le _))]
    | succ j ih =>
      intro hj
      rw [Finset.sum_range_succ, ih (by omega), h.flux j (by omega) (ha (j + 1) hj)]
      ring
  exact key m le_rfl

theorem StepEq.sub {m : ℕ} {κ a : ℕ → K} {q q₂ : K} {T T' S S' : ℕ → K}
    (h : StepEq m κ a q T T') (h₂ : StepEq m κ a q₂ S S') :
    StepEq m κ a (q - q₂) (fun i => T i - S i) (fun i => T' i - S' i) where
  row0 := by linear_combination h.row0 - h₂.row0
  row := by intro i hi; linear_combination h.row i hi - h₂.row i hi
  far := by rw [h.far, h₂.far]

theorem energy_over_steps {m : ℕ} {κ a : ℕ → K} {q : K} (Tk : ℕ → ℕ → K) (N : ℕ)
    (hstep : ∀ k, k < N → StepEq m κ a q (Tk k) (Tk (k + 1))) (ha : ∀ i, i ≤ m → a i ≠ 0) :
    ∑ i ∈ Finset.range (m + 1), a i * (Tk N i - Tk 0 i)
      = (N : K) * q - ∑ k ∈ Finset.range N, κ m * (Tk (k + 1) m - Tk (k + 1) (m + 1)) := by
  -- a cell's gain is the sum of its per-step gains; exchange the sums
  have e : ∀ i, Tk N i - Tk 0 i = ∑ k ∈ Finset.range N, (Tk (k + 1) i - Tk k i) := fun i =>
    (Finset.sum_range_sub (fun k => Tk k i) N).symm
  simp_rw [e, Finset.mul_sum]
  rw [Finset.sum_comm, Finset.sum_congr rfl fun k hk => (hstep k (Finset.mem_range.mp hk)).energy ha,
    Finset.sum_sub_distrib, Finset.sum_const, Finset.card_range, nsmul_eq_mul]

end Abstract

section Order
variable {K : Type} [Field K] [LinearOrder K] [IsStrictOrderedRing K]

/-- Discrete minimum principle for one implicit step: with positive conductances and
    capacities and a non-negative flux, a lower bound of the old temperatures is a lower bound
    of the new ones (look at the cell where the new temperature is smallest). -/
theorem StepEq.min_principle {m : ℕ} {κ a : ℕ → K} {q : K} {T T' : ℕ → K} (h : StepEq m κ a q T T')
    (hκ : ∀ i, i ≤ m → 0 < κ i) (ha : ∀ i, i ≤ m → 0 < a i) (hq : 0 ≤ q) (L : K)
    (hL : ∀ i, i ≤ m + 1 → L ≤ T i) : ∀ i, i ≤ m + 1 → L ≤ T' i := by
  obtain ⟨j, hj, hmin⟩ := Finset.exists_min_image (Finset.range (m + 2)) T' ⟨0, by simp⟩
  have hmin' : ∀ i, i ≤ m + 1 → T' j ≤ T' i := fun i hi => hmin i (Finset.mem_range.mpr (by omega))
  have hjm : j < m + 2 := Finset.mem_range.mp hj
  -- at the minimum the inflow is ≥ 0 and the outflow ≤ 0, so the cell did not cool
  have key : ∀ {a b c u v : K}, 0 < a → a * (c - b) = u - v → 0 ≤ u → v ≤ 0 → b ≤ c := fun ha h hu hv =>
    sub_nonneg.mp ((mul_nonneg_iff_of_pos_left ha).mp (h ▸ sub_nonneg.mpr (hv.trans hu)))
  have hjL : L ≤ T' j := by
    rcases Nat.lt_or_ge j (m + 1) with hlt | hge
    · cases j with
      | zero =>
        exact (hL 0 (by omega)).trans (key (ha 0 (by omega)) (h.flux0 (ha 0 (by omega)).ne') hq
          (mul_nonpos_of_nonneg_of_nonpos (hκ 0 (by omega)).le (sub_nonpos.mpr (hmin' 1 (by omega)))))
      | succ i =>
        exact (hL (i + 1) (by omega)).trans (key (ha (i + 1) (by omega)) (h.flux i (by omega) (ha (i + 1) (by omega)).ne')
          (mul_nonneg (hκ i (by omega)).le (sub_nonneg.mpr (hmin' i (by omega))))
          (mul_nonpos_of_nonneg_of_nonpos (hκ (i + 1) (by omega)).le (sub_nonpos.mpr (hmin' (i + 2) (by omega)))))
    · obtain rfl : j = m + 1 := by omega
      rw [h.far]; exact hL _ le_rfl
  exact fun i hi => hjL.trans (hmin' i hi)

/-- Comparison principle. -/
theorem StepEq.mono {m : ℕ} {κ a : ℕ → K} {q q₂ : K} {T T' S S' : ℕ → K} (h : StepEq m κ a q T T')
    (h₂ : StepEq m κ a q₂ S S') (hκ : ∀ i, i ≤ m → 0 < κ i) (ha : ∀ i, i ≤ m → 0 < a i) (hq : q₂ ≤ q)
    (hTS : ∀ i, i ≤ m + 1 → S i ≤ T i) : ∀ i, i ≤ m + 1 → S' i ≤ T' i := fun i hi =>
  sub_nonneg.mp ((h.sub h₂).min_principle hκ ha (sub_nonneg.mpr hq) 0 (fun j hj => sub_nonneg.mpr (hTS j hj)) i hi)

theorem monotone_in_time {m : ℕ} {κ a : ℕ → K} {q : K} (Tk : ℕ → ℕ → K) (T0 : K) (N : ℕ)
    (hstep : ∀ k, k < N → StepEq m κ a q (Tk k) (Tk (k + 1)))
    (hκ : ∀ i, i ≤ m → 0 < κ i) (ha : ∀ i, i ≤ m → 0 < a i) (hq : 0 ≤ q)
    (hinit : ∀ i, i ≤ m + 1 → Tk 0 i = T0) :
    ∀ k, k < N → ∀ i, i ≤ m + 1 → Tk k i ≤ Tk (k + 1) i ∧ T0 ≤ Tk k i := by
  intro k
  induction k with
  | zero =>
    intro hk i hi
    rw [hinit i hi]
    exact ⟨(hstep 0 hk).min_principle hκ ha hq T0 (fun j hj => (hinit j hj).ge) i hi, le_rfl⟩
  | succ k ih =>
    intro hk i hi
    have ih' := ih (by omega)
    exact ⟨(hstep (k + 1) hk).mono (hstep k (by omega)) hκ ha le_rfl (fun j hj => (ih' j hj).1) i hi,
      (ih' i hi).2.trans (ih' i hi).1⟩

/-- The quantity appended per step, `c0·((T − T0)/q − r)`, as a function of the temperature `T`:
    non-decreasing, and at least `−c0·r` for `T ≥ T0` (`r = R_b` for `g`, `r = 0` for `g_bhw`). -/
theorem gval_mono {c0 q T0 r a b : K} (hc0 : 0 < c0) (hq : 0 < q) (h0 : T0 ≤ a) (hab : a ≤ b) :
    c0 * ((a - T0) / q - r) ≤ c0 * ((b - T0) / q - r) ∧ -(c0 * r) ≤ c0 * ((a - T0) / q - r) := by
  have d1 : (a - T0) / q ≤ (b - T0) / q := div_le_div_of_nonneg_right (sub_le_sub_right hab _) hq.le
  have d2 := mul_nonneg hc0.le (div_nonneg (sub_nonneg.mpr h0) hq.le)
  exact ⟨mul_le_mul_of_nonneg_left (sub_le_sub_right d1 _) hc0.le,
    by rw [mul_sub, sub_eq_neg_add]; exact le_add_of_nonneg_right d2⟩

end Order

theorem range_map_drop {α} (c : ℕ → α) (n k : ℕ) :
    ((List.range (n + k)).map c).drop k = (List.range n).map (fun i => c (i + k)) := by
  apply List.ext_getElem <;> simp [Nat.add_comm]

theorem range_map_take {α} {c : ℕ → α} {n k : ℕ} (h : k ≤ n) : ((List.range n).map c).take k = (List.range k).map c := by
  rw [← List.map_take, List.take_range, Nat.min_eq_left h]

theorem getD_range_map {α} {f : ℕ → α} {n i : ℕ} (hi : i < n) {d : α} : ((List.range n).map f).getD i d = f i := by
  simp [List.getD_eq_getElem?_getD, hi]

theorem list_eq_range_map {α} (l : List α) (d : α) {n : ℕ} (h : l.length = n) :
    (List.range n).map (fun i => l.getD i d) = l := by
  subst h
  apply List.ext_getElem
  · simp
  · intro i h1 h2; simp [List.getD_eq_getElem?_getD, h2]

section Bridge
variable {K : Type} [Field K]

/-- Conductance between a cell and its east neighbour. -/
def cond (E : Env K) (a b : Cell K) : K := 1 / (half1 E a + half2 E b)
/-- Heat capacity of a cell per unit length divided by the time step (`ad`). -/
def capRate (dt : K) (c : Cell K) : K := c.rhoCp * c.vol / dt

theorem sum_capRate (dt : K) (hdt : dt ≠ 0) (c : ℕ → Cell K) (u : ℕ → K) (s : Finset ℕ) :
    ∑ i ∈ s, (c i).rhoCp * (c i).vol * u i = dt * ∑ i ∈ s, capRate dt (c i) * u i := by
  rw [Finset.mul_sum]
  exact Finset.sum_congr rfl fun i _ => by rw [capRate, ← mul_assoc, mul_div_cancel₀ _ hdt]

theorem assemble_range (E : Env K) (m : ℕ) (dt : K) (c : ℕ → Cell K) :
    assemble E (m + 2) dt ((List.range (m + 2)).map c) =
      { dl := (List.range m).map (fun i => cond E (c i) (c (i + 1)) / capRate dt (c (i + 1))) ++ [0]
        d := [-cond E (c 0) (c 1) / capRate dt (c 0) - 1]
          ++ (List.range m).map (fun i => -cond E (c i) (c (i + 1)) / capRate dt (c (i + 1))
                - cond E (c (i + 1)) (c (i + 2)) / capRate dt (c (i + 1)) - 1) ++ [1]
        du := [cond E (c 0) (c 1) / capRate dt (c 0)]
          ++ (List.range m).map (fun i => cond E (c (i + 1)) (c (i + 2)) / capRate dt (c (i + 1)))
        ad0 := capRate dt (c 0)
        ae0 := cond E (c 0) (c 1)
        ae := (List.range m).map (fun i => cond E (c (i + 1)) (c (i + 2)))
        aw := (List.range m).map (fun i => -cond E (c i) (c (i + 1)))
        ad := (List.range m).map (fun i => capRate dt (c (i + 1))) } := by
  have e0 : ((List.range (m + 2)).map c).head? = some (c 0) := by simp [List.range_succ_eq_map]
  have e1 : (((List.range (m + 2)).map c).drop 1).head? = some (c 1) := by simp [List.range_succ_eq_map]
  unfold assemble
  simp only [e0, e1]
  simp only [Nat.add_sub_cancel, range_map_drop, range_map_take (Nat.le_add_right m 2),
    range_map_take (Nat.le_add_right m 1), List.map_map, List.zipWith_map, List.zipWith_self, List.zip_map', Nat.cast_one,
    Nat.cast_zero]
  simp only [Function.comp_def, cond, capRate, neg_div, neg_neg]

theorem rhs_range (m : ℕ) (q ad0 : K) (t : ℕ → K) :
    rhs (m + 2) q ad0 ((List.range (m + 2)).map t)
      = [-t 0 - q / ad0] ++ (List.range m).map (fun i => -t (i + 1)) ++ [t (m + 1)] := by
  unfold rhs
  simp only [Nat.add_sub_cancel, range_map_drop t (m + 1) 1, range_map_take (Nat.le_add_right m 1), List.map_map]
  congr 1
  · congr 1
    simp [List.range_succ_eq_map]
  · rw [List.range_succ, List.map_append, List.drop_left' (by simp)]
    rfl

theorem rhs_length (m : ℕ) (q ad0 : K) (T : List K) (hT : T.length = m + 2) : (rhs (m + 2) q ad0 T).length = m + 2 := by
  simp [rhs, hT]

/-- `x` solves the tridiagonal system `(dl, d, du) x = b` (row `i`:
    `dl[i-1] x[i-1] + d[i] x[i] + du[i] x[i+1] = b[i]`, absent entries read as 0). -/
def SolvesTri (dl d du b x : List K) : Prop :=
  x.length = d.length ∧ ∀ i, i < d.length →
    (if i = 0 then 0 else dl.getD (i - 1) 0 * x.getD (i - 1) 0) + d.getD i 0 * x.getD i 0
      + du.getD i 0 * x.getD (i + 1) 0 = b.getD i 0

instance [DecidableEq K] (dl d du b x : List K) : Decidable (SolvesTri dl d du b x) := by
  unfold SolvesTri; infer_instance

theorem solvesTri_shape {m : ℕ} {L D U B X : ℕ → K} {d0 u0 b0 bl : K}
    (h : SolvesTri ((List.range m).map L ++ [0]) ([d0] ++ (List.range m).map D ++ [1]) ([u0] ++ (List.range m).map U)
      ([b0] ++ (List.range m).map B ++ [bl]) ((List.range (m + 2)).map X)) :
    d0 * X 0 + u0 * X 1 = b0 ∧ (∀ i, i < m → L i * X i + D i * X (i + 1) + U i * X (i + 2) = B i) ∧
      X (m + 1) = bl := by
  obtain ⟨_, hrow⟩ := h
  have hlen : ([d0] ++ (List.range m).map D ++ [1]).length = m + 2 := by simp
  rw [hlen] at hrow
  refine ⟨?_, fun i hi => ?_, ?_⟩
  · simpa using hrow 0 (by omega)
  · simpa [List.getD_eq_getElem?_getD, List.getElem?_append, hi, show i < m + 2 by omega, show i + 1 < m + 2 by omega]
      using hrow (i + 1) (by omega)
  · simpa [List.getD_eq_getElem?_getD, List.getElem?_append] using hrow (m + 1) (by omega)

/-- Bridge: a solution of the assembled tridiagonal system (the lists `assemble` and `rhs`
    build, i.e. what is handed to LAPACK) is a solution of the step equations `StepEq` with
    `κ i = cond (cell i) (cell (i+1))` and `a i = ρc_p V / Δt` of cell `i`. -/
theorem solvesTri_stepEq (E : Env K) (m : ℕ) (dt q : K) (c : ℕ → Cell K) (t t' : ℕ → K)
    (h : SolvesTri (assemble E (m + 2) dt ((List.range (m + 2)).map c)).dl
            (assemble E (m + 2) dt ((List.range (m + 2)).map c)).d
            (assemble E (m + 2) dt ((List.range (m + 2)).map c)).du
            (rhs (m + 2) q (assemble E (m + 2) dt ((List.range (m + 2)).map c)).ad0 ((List.range (m + 2)).map t))
            ((List.range (m + 2)).map t')) :
    StepEq m (fun i => cond E (c i) (c (i + 1))) (fun i => capRate dt (c i)) q t t' := by
  rw [assemble_range, rhs_range] at h
  obtain ⟨h0, hr, hf⟩ := solvesTri_shape h
  exact ⟨h0, hr, hf⟩

end Bridge

section CoeffPos
variable {K : Type} [Field K] [LinearOrder K] [IsStrictOrderedRing K]

theorem cond_pos (E : Env K) (hlog : LogPos E) (hpi : 0 < E.pi) {a b : Cell K} (a1 : 0 < a.rC) (a2 : a.rC < a.rOut)
    (a3 : 0 < a.k) (b1 : 0 < b.rIn) (b2 : b.rIn < b.rC) (b3 : 0 < b.k) : 0 < cond E a b :=
  one_div_pos.mpr (add_pos (div_pos (hlog.ratio a1 a2) (mul_pos (twoPi_pos E hpi) a3))
    (div_pos (hlog.ratio b1 b2) (mul_pos (twoPi_pos E hpi) b3)))

theorem cond_pos_of_ok (E : Env K) (hlog : LogPos E) (hpi : 0 < E.pi) (a b : Cell K) (ha : CellOK a) (hb : CellOK b) :
    0 < cond E a b :=
  cond_pos E hlog hpi (ha.1.trans ha.2.1) ha.2.2.1 ha.2.2.2.1 hb.1 hb.2.1 hb.2.2.2.1

theorem capRate_pos (dt : K) (hdt : 0 < dt) {a : Cell K} (h1 : 0 < a.rhoCp) (h2 : 0 < a.vol) : 0 < capRate dt a :=
  div_pos (mul_pos h1 h2) hdt

theorem core_coefficients_pos (E : Env K) (hlog : LogPos E) (C : Counts) (x : Inputs K) (rf rpg dt : K)
    (hv : ValidInputs E C x rf rpg) (hdt : 0 < dt) (dflt : Cell K) :
    (∀ i, i + 1 < (fillRadialCellsCore E C x rf rpg).length →
      0 < cond E ((fillRadialCellsCore E C x rf rpg).getD i dflt) ((fillRadialCellsCore E C x rf rpg).getD (i + 1) dflt)) ∧
    (∀ i, i < (fillRadialCellsCore E C x rf rpg).length →
      0 < capRate dt ((fillRadialCellsCore E C x rf rpg).getD i dflt)) := by
  have mem : ∀ i, i < (fillRadialCellsCore E C x rf rpg).length →
      CellOK ((fillRadialCellsCore E C x rf rpg).getD i dflt) := fun i hi => by
    rw [List.getD_eq_getElem _ _ hi]
    exact core_cells_ok E hlog C x rf rpg hv _ (List.getElem_mem hi)
  exact ⟨fun i hi => cond_pos_of_ok E hlog hv.pi_pos _ _ (mem i (by omega)) (mem (i + 1) hi),
    fun i hi => capRate_pos dt hdt (mem i hi).2.2.2.2.1 (mem i hi).2.2.2.2.2⟩

end CoeffPos

section Thomas
variable {K : Type} [Field K]

theorem backGo_fst : ∀ (fac : List (Fac K)) (b : List K), (backGo fac b).1 = (backGo fac b).2.getD 0 0
  | [], _ => by simp [backGo]
  | _ :: _, [] => by simp [backGo]
  | _ :: _, _ :: _ => rfl

/-- The elimination is exact whenever no pivot vanishes: every row `(l, d, u)` holds of `x`, with `xPrev` before
    the first unknown and 0 beyond the last (induction over the rows; the invariant is the reduced previous row
    `dPrev·xPrev + uPrev·x₀ = bPrev`). -/
theorem elimination_exact :
    ∀ (rows : List (K × K × K)) (b : List K) (dPrev uPrev bPrev xPrev : K) (x : List K),
      rows.length = b.length → dPrev ≠ 0 → (∀ f ∈ factorGo rows dPrev uPrev, f.dP ≠ 0) →
      (backGo (factorGo rows dPrev uPrev) (fwdGo (factorGo rows dPrev uPrev) b bPrev)).2 = x →
      dPrev * xPrev + uPrev * x.getD 0 0 = bPrev →
      x.length = rows.length ∧ ∀ i, i < rows.length →
        (rows.getD i (0, 0, 0)).1 * (xPrev :: x).getD i 0
          + (rows.getD i (0, 0, 0)).2.1 * x.getD i 0 + (rows.getD i (0, 0, 0)).2.2 * x.getD (i + 1) 0 = b.getD i 0
  | [], [], _, _, _, _, _, _, _, _, hx, _ => by simp [← hx, factorGo, fwdGo, backGo]
  | [], _ :: _, _, _, _, _, _, hl, _, _, _, _ => by simp at hl
  | _ :: _, [], _, _, _, _, _, hl, _, _, _, _ => by simp at hl
  | (l, d, u) :: rows, b0 :: bs, dPrev, uPrev, bPrev, xPrev, _, hl, hd, hp, hx, hprev => by
    simp only [factorGo, fwdGo, backGo, backGo_fst] at hp hx
    subst hx
    have hdP : d - l / dPrev * uPrev ≠ 0 := hp _ (List.mem_cons_self ..)
    have key : ∀ r B : K, (d - l / dPrev * uPrev) * ((B - u * r) / (d - l / dPrev * uPrev)) + u * r = B := by
      intro r B; rw [mul_div_cancel₀ _ hdP]; ring
    obtain ⟨ihl, ih⟩ := elimination_exact rows bs (d - l / dPrev * uPrev) u (b0 - l / dPrev * bPrev) _ _
      (by simpa using hl) hdP (fun f hf => hp f (List.mem_cons_of_mem _ hf)) rfl (key _ _)
    refine ⟨by simp [ihl], fun i hi => ?_⟩
    cases i with
    | zero =>
      simp only [List.getD_cons_zero, List.getD_cons_succ] at hprev ⊢
      generalize (backGo (K := K) _ _).2.getD 0 0 = r at hprev ⊢
      linear_combination (l / dPrev) * hprev + key r (b0 - l / dPrev * bPrev) - xPrev * div_mul_cancel₀ l hd
    | succ j => exact ih j (Nat.lt_of_succ_lt_succ hi)

theorem rowsOf_length (dl d du : List K) (hdl : dl.length + 1 = d.length) (hdu : du.length + 1 = d.length) :
    (rowsOf dl d du).length = d.length := by
  simp only [rowsOf, List.length_zipWith, List.length_cons, List.length_zip, List.length_append, List.length_nil]
  omega

theorem rowsOf_getD (dl d du : List K) (hdl : dl.length + 1 = d.length) (hdu : du.length + 1 = d.length)
    (i : ℕ) (hi : i < d.length) :
    (rowsOf dl d du).getD i (0, 0, 0) = ((0 :: dl).getD i 0, d.getD i 0, du.getD i 0) := by
  rw [List.getD_eq_getElem _ _ (by rw [rowsOf_length dl d du hdl hdu]; exact hi),
    List.getD_eq_getElem _ _ (by simp; omega), List.getD_eq_getElem _ _ hi]
  rcases Nat.lt_or_ge i du.length with h | h
  · simp [rowsOf, List.getElem_append_left h, List.getElem?_eq_getElem h]
  · simp [rowsOf, List.getElem_append_right h, List.getElem?_eq_none h]

/-- The rows of a system of the shape `assemble` builds: a first row without sub-diagonal, `m` full
    rows, the far-field row `x = b`. -/
theorem rowsOf_shape (m : ℕ) (L D U : ℕ → K) (d0 u0 : K) :
    rowsOf ((List.range m).map L ++ [0]) ([d0] ++ (List.range m).map D ++ [1]) ([u0] ++ (List.range m).map U)
      = (0, d0, u0) :: (List.range m).map (fun i => (L i, D i, U i)) ++ [(0, 1, 0)] := by
  simp [rowsOf, List.zipWith_append, List.zip_append, List.zip_map', List.zipWith_map, List.zipWith_self]

theorem triSolve_solves_of_pivots (dl d du b : List K) (hdl : dl.length + 1 = d.length) (hdu : du.length + 1 = d.length)
    (hb : b.length = d.length) (hpiv : ∀ f ∈ factor (rowsOf dl d du), f.dP ≠ 0) :
    SolvesTri dl d du b (triSolve dl d du b) := by
  have hlen := rowsOf_length dl d du hdl hdu
  obtain ⟨hxl, hrows⟩ := elimination_exact (rowsOf dl d du) b ((1 : ℕ) : K) ((0 : ℕ) : K) ((0 : ℕ) : K) 0
    (triSolve dl d du b) (by rw [hlen, hb]) (by simp) hpiv rfl (by simp)
  refine ⟨by rw [← hlen]; exact hxl, ?_⟩
  intro i hi
  have := hrows i (by rw [hlen]; exact hi)
  rw [rowsOf_getD dl d du hdl hdu i hi] at this
  cases i with
  | zero => simpa only [↓reduceIte, List.getD_cons_zero, mul_zero] using this
  | succ j =>
    rw [if_neg (Nat.succ_ne_zero j)]
    exact this

end Thomas

section Pivots
variable {K : Type} [Field K] [LinearOrder K] [IsStrictOrderedRing K]

/-- Strict row diagonal dominance keeps every pivot of the elimination away from 0
    (invariant: `|u_prev| < |d'_prev|`). -/
theorem pivots_ne_zero :
    ∀ (rows : List (K × K × K)) (dPrev uPrev : K), |uPrev| < |dPrev| →
      (∀ r ∈ rows, |r.1| + |r.2.2| < |r.2.1|) → ∀ f ∈ factorGo rows dPrev uPrev, f.dP ≠ 0
  | [], _, _, _, _, f, hf => by simp [factorGo] at hf
  | (l, d, u) :: rows, dPrev, uPrev, hprev, hdom, f, hf => by
    have hrow := hdom (l, d, u) (List.mem_cons_self ..)
    have hdpos : 0 < |dPrev| := lt_of_le_of_lt (abs_nonneg _) hprev
    have h1 : |l / dPrev * uPrev| ≤ |l| := by
      rw [abs_mul, abs_div, div_mul_eq_mul_div, div_le_iff₀ hdpos]
      exact mul_le_mul_of_nonneg_left hprev.le (abs_nonneg _)
    have h2 : |d| - |l / dPrev * uPrev| ≤ |d - l / dPrev * uPrev| := abs_sub_abs_le_abs_sub _ _
    have h3 : |u| < |d - l / dPrev * uPrev| := (lt_sub_iff_add_lt'.mpr hrow).trans_le ((sub_le_sub_left h1 _).trans h2)
    simp only [factorGo, List.mem_cons] at hf
    rcases hf with rfl | hf
    · simp only
      intro h0; rw [h0, abs_zero] at h3; exact absurd h3 (not_lt.mpr (abs_nonneg _))
    · exact pivots_ne_zero rows _ _ h3 (fun r hr => hdom r (List.mem_cons_of_mem _ hr)) f hf

/-- A row `(p, −(p + q + 1), q)` with `p, q ≥ 0` is strictly diagonally dominant. -/
theorem abs_dom {p q d : K} (hp : 0 ≤ p) (hq : 0 ≤ q) (hd : d = -(p + q + 1)) : |p| + |q| < |d| := by
  rw [hd, abs_neg, abs_of_nonneg hp, abs_of_nonneg hq, abs_of_pos (by linarith)]
  linarith

theorem assembled_pivots (E : Env K) (m : ℕ) (dt : K) (c : ℕ → Cell K)
    (hκ : ∀ i, i ≤ m → 0 < cond E (c i) (c (i + 1))) (ha : ∀ i, i ≤ m → 0 < capRate dt (c i)) :
    ∀ f ∈ factor (rowsOf (assemble E (m + 2) dt ((List.range (m + 2)).map c)).dl
                          (assemble E (m + 2) dt ((List.range (m + 2)).map c)).d
                          (assemble E (m + 2) dt ((List.range (m + 2)).map c)).du), f.dP ≠ 0 := by
  simp only [assemble_range, rowsOf_shape, factor]
  refine pivots_ne_zero _ _ _ (by simp) ?_
  have r : ∀ i j, i ≤ m → j ≤ m → 0 ≤ cond E (c i) (c (i + 1)) / capRate dt (c j) :=
    fun i j hi hj => (div_pos (hκ i hi) (ha j hj)).le
  simp only [List.mem_cons, List.mem_append, List.mem_map, List.mem_range, List.mem_nil_iff, or_false]
  rintro _ ((rfl | ⟨i, hi, rfl⟩) | rfl)
  · exact abs_dom le_rfl (r 0 0 (by omega) (by omega)) (by ring)
  · exact abs_dom (r i (i + 1) (by omega) (by omega)) (r (i + 1) (i + 1) (by omega) (by omega)) (by ring)
  · simp

theorem triSolve_solves_assembled (E : Env K) (m : ℕ) (dt : K) (c : ℕ → Cell K) (b : List K) (hb : b.length = m + 2)
    (hκ : ∀ i, i ≤ m → 0 < cond E (c i) (c (i + 1))) (ha : ∀ i, i ≤ m → 0 < capRate dt (c i)) :
    SolvesTri (assemble E (m + 2) dt ((List.range (m + 2)).map c)).dl
      (assemble E (m + 2) dt ((List.range (m + 2)).map c)).d
      (assemble E (m + 2) dt ((List.range (m + 2)).map c)).du b
      (triSolve (assemble E (m + 2) dt ((List.range (m + 2)).map c)).dl
        (assemble E (m + 2) dt ((List.range (m + 2)).map c)).d
        (assemble E (m + 2) dt ((List.range (m + 2)).map c)).du b) := by
  apply triSolve_solves_of_pivots _ _ _ _ _ _ _ (assembled_pivots E m dt c hκ ha) <;> simp [assemble_range, hb]

end Pivots

section StepOnce
variable {K : Type} [Field K]

theorem stepOnce_eq_ok (E : Env K) (n bhIdx : ℕ) (fac : List (Fac K)) (ad0 q dt tS c0 rb : K) (s s' : LoopState K)
    (h : stepOnce E n bhIdx fac ad0 q dt tS c0 rb s = .ok s') :
    s'.T = solveFac fac (rhs n q ad0 s.T) ∧ s'.nSteps = s.nSteps + 1 ∧ s'.time = s.time + dt ∧
    s'.g = c0 * ((s'.T.headD 0 - ((Gen.Radial.initTemp : ℕ) : K)) / q - rb) :: s.g ∧
    s'.gBhw = c0 * (((s'.T.drop bhIdx).headD 0 - ((Gen.Radial.initTemp : ℕ) : K)) / q) :: s.gBhw := by
  unfold stepOnce at h
  simp only [bind, Except.bind, pure, Except.pure, throw, throwThe, MonadExceptOf.throw, Nat.cast_zero] at h
  split at h
  · exact absurd h (by simp)
  · split at h
    · exact absurd h (by simp)
    · injection h with h
      subst h
      simp
end StepOnce

section Traj
variable {K : Type} [Field K] [LinearOrder K] [IsStrictOrderedRing K]

/-- What the loop body of the model does to the temperature list: build the right-hand side,
    solve with the factorised matrix (`stepOnce`: `solveFac fac (rhs n q ad0 s.T)`). -/
def modelStep (E : Env K) (m : ℕ) (dt q : K) (c : ℕ → Cell K) (T : List K) : List K :=
  triSolve (assemble E (m + 2) dt ((List.range (m + 2)).map c)).dl
    (assemble E (m + 2) dt ((List.range (m + 2)).map c)).d
    (assemble E (m + 2) dt ((List.range (m + 2)).map c)).du
    (rhs (m + 2) q (assemble E (m + 2) dt ((List.range (m + 2)).map c)).ad0 T)

def modelTraj (E : Env K) (m : ℕ) (dt q : K) (c : ℕ → Cell K) (T0 : List K) (k : ℕ) : List K :=
  (modelStep E m dt q c)^[k] T0

theorem modelStep_length (E : Env K) (m : ℕ) (dt q : K) (c : ℕ → Cell K) (T : List K) (hT : T.length = m + 2)
    (hκ : ∀ i, i ≤ m → 0 < cond E (c i) (c (i + 1))) (ha : ∀ i, i ≤ m → 0 < capRate dt (c i)) :
    (modelStep E m dt q c T).length = m + 2 :=
  (triSolve_solves_assembled E m dt c _ (rhs_length m q _ T hT) hκ ha).1.trans (by simp [assemble_range])

omit [LinearOrder K] [IsStrictOrderedRing K] in
theorem modelTraj_succ (E : Env K) (m : ℕ) (dt q : K) (c : ℕ → Cell K) (T0 : List K) (k : ℕ) :
    modelTraj E m dt q c T0 (k + 1) = modelStep E m dt q c (modelTraj E m dt q c T0 k) :=
  Function.iterate_succ_apply' ..

theorem modelTraj_length (E : Env K) (m : ℕ) (dt q : K) (c : ℕ → Cell K) (T0 : List K) (hT : T0.length = m + 2)
    (hκ : ∀ i, i ≤ m → 0 < cond E (c i) (c (i + 1))) (ha : ∀ i, i ≤ m → 0 < capRate dt (c i)) (k : ℕ) :
    (modelTraj E m dt q c T0 k).length = m + 2 := by
  induction k with
  | zero => exact hT
  | succ k ih => rw [modelTraj_succ]; exact modelStep_length E m dt q c _ ih hκ ha

/-- On index functions, the form `solvesTri_stepEq` consumes. -/
theorem modelTraj_solves (E : Env K) (m : ℕ) (dt q : K) (c : ℕ → Cell K) (T0 : List K) (hT : T0.length = m + 2)
    (hκ : ∀ i, i ≤ m → 0 < cond E (c i) (c (i + 1))) (ha : ∀ i, i ≤ m → 0 < capRate dt (c i)) (k : ℕ) :
    SolvesTri (assemble E (m + 2) dt ((List.range (m + 2)).map c)).dl
      (assemble E (m + 2) dt ((List.range (m + 2)).map c)).d
      (assemble E (m + 2) dt ((List.range (m + 2)).map c)).du
      (rhs (m + 2) q (assemble E (m + 2) dt ((List.range (m + 2)).map c)).ad0
        ((List.range (m + 2)).map (fun i => (modelTraj E m dt q c T0 k).getD i 0)))
      ((List.range (m + 2)).map (fun i => (modelTraj E m dt q c T0 (k + 1)).getD i 0)) := by
  have l0 := modelTraj_length E m dt q c T0 hT hκ ha k
  rw [list_eq_range_map _ 0 l0, list_eq_range_map _ 0 (modelTraj_length E m dt q c T0 hT hκ ha (k + 1)), modelTraj_succ]
  exact triSolve_solves_assembled E m dt c _ (rhs_length m q _ _ l0) hκ ha

end Traj

section Resample
variable {K : Type}

def lastOf : K → List K → K
  | y0, [] => y0
  | _, y1 :: ys => lastOf y1 ys

theorem getLast?_eq_lastOf : ∀ (xs : List K) (x0 : K), (x0 :: xs).getLast? = some (lastOf x0 xs)
  | [], _ => rfl
  | x1 :: xs, x0 => by
    rw [List.getLast?_cons_cons]; exact getLast?_eq_lastOf xs x1

section
variable [LinearOrder K]

def LeSpec (E : Env K) : Prop := ∀ a b : K, E.le a b = true ↔ a ≤ b

theorem lt_spec (E : Env K) (h : LeSpec E) (a b : K) : lt E a b = true ↔ a < b := by
  rw [lt, Bool.and_eq_true, Bool.not_eq_true', ← Bool.not_eq_true, h a b, h b a, lt_iff_le_not_ge]

theorem head_le_lastOf : ∀ (ys : List K) (y0 : K), IsChain (· ≤ ·) (y0 :: ys) → y0 ≤ lastOf y0 ys
  | [], _, _ => le_rfl
  | y1 :: ys, y0, h => by
    rw [isChain_cons_cons] at h
    exact le_trans h.1 (head_le_lastOf ys y1 h.2)

end

variable [Field K]

theorem interpAt_single (E : Env K) (x0 y0 x : K) : interpAt E [x0] [y0] x = y0 := rfl

variable [LinearOrder K]

theorem interpAt_cons_cons (E : Env K) (hle : LeSpec E) (x0 x1 y0 y1 : K) (xs ys : List K) {x : K} (h0 : x0 ≤ x) :
    interpAt E (x0 :: x1 :: xs) (y0 :: y1 :: ys) x
      = if x < x1 then (y1 - y0) / (x1 - x0) * (x - x0) + y0 else interpAt E (x1 :: xs) (y1 :: ys) x := by
  rw [interpAt]
  simp only [lt_spec E hle, hle x x0]
  -- at the node `x0` the segment formula gives the node value
  split_ifs with _ h
  · rw [le_antisymm h h0, sub_self, mul_zero, zero_add]
  · rfl
  · rfl

variable [IsStrictOrderedRing K]

theorem seg_mono_bounds {x0 x1 y0 y1 u v : K} (hx : x0 < x1) (hy : y0 ≤ y1) (hu : x0 ≤ u) (huv : u ≤ v) (hv : v ≤ x1) :
    y0 ≤ (y1 - y0) / (x1 - x0) * (u - x0) + y0 ∧
    (y1 - y0) / (x1 - x0) * (u - x0) + y0 ≤ (y1 - y0) / (x1 - x0) * (v - x0) + y0 ∧
    (y1 - y0) / (x1 - x0) * (v - x0) + y0 ≤ y1 := by
  have hs : 0 ≤ (y1 - y0) / (x1 - x0) := div_nonneg (sub_nonneg.mpr hy) (sub_pos.mpr hx).le
  refine ⟨le_add_of_nonneg_left (mul_nonneg hs (sub_nonneg.mpr hu)),
    add_le_add_left (mul_le_mul_of_nonneg_left (sub_le_sub_right huv _) hs) _, ?_⟩
  have := mul_le_mul_of_nonneg_left (sub_le_sub_right hv x0) hs
  rw [div_mul_cancel₀ _ (sub_pos.mpr hx).ne'] at this
  exact le_sub_iff_add_le.mp this

theorem interpAt_mono_bounds (E : Env K) (hle : LeSpec E) :
    ∀ (xs ys : List K) (x0 y0 : K), xs.length = ys.length → IsChain (· < ·) (x0 :: xs) → IsChain (· ≤ ·) (y0 :: ys) →
      ∀ x x', x0 ≤ x → x ≤ x' → y0 ≤ interpAt E (x0 :: xs) (y0 :: ys) x ∧
        interpAt E (x0 :: xs) (y0 :: ys) x ≤ interpAt E (x0 :: xs) (y0 :: ys) x' ∧
        interpAt E (x0 :: xs) (y0 :: ys) x' ≤ lastOf y0 ys
  | [], [], x0, y0, _, _, _, x, x', _, _ => by simp only [interpAt_single, lastOf, le_refl, and_self]
  | [], _ :: _, _, _, hl, _, _, _, _, _, _ => by simp at hl
  | _ :: _, [], _, _, hl, _, _, _, _, _, _ => by simp at hl
  | x1 :: xs, y1 :: ys, x0, y0, hl, hx, hy, x, x', h0, hxx => by
    rw [isChain_cons_cons] at hx hy
    have ih := interpAt_mono_bounds E hle xs ys x1 y1 (by simpa using hl) hx.2 hy.2
    have htail := head_le_lastOf ys y1 hy.2
    rw [interpAt_cons_cons E hle _ _ _ _ _ _ h0, interpAt_cons_cons E hle _ _ _ _ _ _ (h0.trans hxx)]
    rcases lt_or_ge x' x1 with h' | h'
    · rw [if_pos (hxx.trans_lt h'), if_pos h']
      have := seg_mono_bounds hx.1 hy.1 h0 hxx h'.le
      exact ⟨this.1, this.2.1, this.2.2.trans htail⟩
    · rw [if_neg (not_lt.mpr h')]
      rcases lt_or_ge x x1 with h | h
      · rw [if_pos h]
        have s := seg_mono_bounds hx.1 hy.1 h0 le_rfl h.le
        have := ih x' x' h' le_rfl
        exact ⟨s.1, s.2.2.trans this.1, this.2.2⟩
      · rw [if_neg (not_lt.mpr h)]
        have := ih x x' h hxx
        exact ⟨hy.1.trans this.1, this.2.1, this.2.2⟩

theorem linspace_getElem {start stop : K} {num : ℕ} (hnum : 2 ≤ num) (i : ℕ) (h : i < (linspace start stop num).length) :
    (linspace start stop num)[i] = (i : K) * ((stop - start) / ((num - 1 : ℕ) : K)) + start := by
  simp only [linspace, List.getElem_map, List.getElem_range]
  split
  · next he =>
    obtain rfl : i = num - 1 := by omega
    rw [mul_div_cancel₀ _ (Nat.cast_ne_zero.mpr (by omega)), sub_add_cancel]
  · rfl

theorem linspace_length (start stop : K) (num : ℕ) : (linspace start stop num).length = num := by
  simp [linspace]

theorem linspace_mono {start stop : K} {num : ℕ} (h : start ≤ stop) (hnum : 2 ≤ num) :
    (∀ w ∈ linspace start stop num, start ≤ w) ∧ IsChain (· ≤ ·) (linspace start stop num) := by
  have hstep : 0 ≤ (stop - start) / ((num - 1 : ℕ) : K) := div_nonneg (sub_nonneg.mpr h) (Nat.cast_nonneg _)
  constructor
  · intro w hw
    obtain ⟨i, hi, rfl⟩ := List.getElem_of_mem hw
    rw [linspace_getElem hnum]
    exact le_add_of_nonneg_left (mul_nonneg (Nat.cast_nonneg i) hstep)
  · rw [isChain_iff_getElem]
    intro i hi
    rw [linspace_getElem hnum, linspace_getElem hnum]
    exact add_le_add_left (mul_le_mul_of_nonneg_right (Nat.cast_le.mpr (Nat.le_succ i)) hstep) _

theorem resample_mono (E : Env K) (hle : LeSpec E) (xs ys : List K) (x0 y0 : K) (num : ℕ) (hnum : 2 ≤ num)
    (hl : xs.length = ys.length) (hx : IsChain (· < ·) (x0 :: xs)) (hy : IsChain (· ≤ ·) (y0 :: ys))
    (u v : List K) (h : resample E (x0 :: xs) (y0 :: ys) num = .ok (u, v)) :
    IsChain (· ≤ ·) v ∧ ∀ w ∈ v, y0 ≤ w ∧ w ≤ lastOf y0 ys := by
  simp only [resample, getLast?_eq_lastOf, List.head?_cons, Except.ok.injEq, Prod.mk.injEq] at h
  obtain ⟨rfl, rfl⟩ := h
  obtain ⟨hlo, hmono⟩ := linspace_mono (head_le_lastOf xs x0 (hx.imp fun _ _ h => h.le)) hnum
  refine ⟨(isChain_map _).mpr (hmono.imp_of_mem_imp fun a b ha _ hab =>
    (interpAt_mono_bounds E hle xs ys x0 y0 hl hx hy a b (hlo a ha) hab).2.1), fun w hw => ?_⟩
  obtain ⟨a, ha, rfl⟩ := List.mem_map.mp hw
  have := interpAt_mono_bounds E hle xs ys x0 y0 hl hx hy _ _ (hlo a ha) le_rfl
  exact ⟨this.1, this.2.2⟩

end Resample

end GHEVerif.Radial

