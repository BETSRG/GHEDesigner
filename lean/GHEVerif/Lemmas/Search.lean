/- What `Bisection1D.search` (Model/Search.lean) does, in the order it runs: cap filter, branch before the
   loop (`pre_cases`), loop (`loop_rule`, invariant `Inv`), final pick, whole run (`bisect1D_of_pre_inl`,
   `bisect1D_run`, read backwards by `bisect1D_selected` and `bisect1D_pyError`); then `utilities.solve_root`. -/
import GHEVerif.Model.Search
import GHEVerif.Lemmas.Py
import Mathlib.Data.Prod.Lex
import Mathlib.Data.List.MinMax

namespace GHEVerif.Search
open GHEVerif

/-! ### `sign`, `check_bracket` -/

theorem sign_pos {x : Rat} (h : 0 < x) : Gen.sign x = .ok 1 := by
  unfold Gen.sign
  rw [ratAbs_eq_abs, abs_of_pos h, pyDiv_ok h.ne', div_self h.ne']
  exact congrArg Except.ok (by exact_mod_cast pyTrunc_intCast 1)

theorem sign_neg {x : Rat} (h : x < 0) : Gen.sign x = .ok (-1) := by
  unfold Gen.sign
  rw [ratAbs_eq_abs, abs_of_neg h, pyDiv_ok h.ne, neg_div, div_self h.ne]
  exact congrArg Except.ok (by exact_mod_cast pyTrunc_intCast (-1))

theorem sign_zero : Gen.sign 0 = .error .zeroDiv := rfl

theorem sign_ok_iff {x : Rat} {s : Int} : Gen.sign x = .ok s ↔ (0 < x ∧ s = 1) ∨ (x < 0 ∧ s = -1) := by
  rcases lt_trichotomy x 0 with h | rfl | h
  · simp [sign_neg h, h, h.not_gt, eq_comm]
  · simp [sign_zero]
  · simp [sign_pos h, h, h.not_gt, eq_comm]

theorem sign_error_iff {x : Rat} {e : PyErr} : Gen.sign x = .error e ↔ (x = 0 ∧ e = .zeroDiv) := by
  rcases lt_trichotomy x 0 with h | rfl | h
  · simp [sign_neg h, h.ne]
  · simp [sign_zero, eq_comm]
  · simp [sign_pos h, h.ne']

theorem checkBracket_iff (a b : Int) :
    Gen.checkBracket a b = true ↔ (a < 0 ∧ 0 < b) ∨ (b < 0 ∧ 0 < a) := by
  unfold Gen.checkBracket; simp

theorem bracket_of_signs {x y : Rat} {sx sy : Int} (hx : Gen.sign x = .ok sx) (hy : Gen.sign y = .ok sy) :
    Gen.checkBracket sx sy = true ↔ (x < 0 ∧ 0 < y) ∨ (y < 0 ∧ 0 < x) := by
  rw [checkBracket_iff]
  rcases sign_ok_iff.mp hx with ⟨a, rfl⟩ | ⟨a, rfl⟩ <;> rcases sign_ok_iff.mp hy with ⟨b, rfl⟩ | ⟨b, rfl⟩ <;>
    simp [a, b, not_lt.mpr a.le, not_lt.mpr b.le]

/-! ### the cap filter -/

theorem upperIndex_ok {counts : List Nat} {cap : Option Nat} {xr : Nat} (h : upperIndex counts cap = .ok xr) :
    xr < counts.length ∧ (∀ c, cap = some c → counts.getD xr 0 < c) := by
  unfold upperIndex at h
  split at h
  · split at h
    · cases h
    · cases h; exact ⟨by omega, fun c hc => by cases hc⟩
  · split at h
    · rename_i c _ i hg
      cases h
      have := List.mem_of_getLast? hg
      simp only [List.mem_filter, List.mem_range, decide_eq_true_eq] at this
      exact ⟨this.1, fun c' hc' => by cases hc'; exact this.2⟩
    · cases h

theorem upperIndex_error {counts : List Nat} {cap : Option Nat} {e : PyErr} (h : upperIndex counts cap = .error e) :
    (e = .indexError ∧ counts = [] ∧ cap = none) ∨
    (e = .valueError ∧ ∃ c, cap = some c ∧ ∀ i < counts.length, ¬ counts.getD i 0 < c) := by
  unfold upperIndex at h
  split at h
  · split at h
    · rename_i hl
      cases h; exact Or.inl ⟨rfl, List.length_eq_zero_iff.mp hl, rfl⟩
    · cases h
  · split at h
    · cases h
    · rename_i c _ hg
      cases h
      refine Or.inr ⟨rfl, c, rfl, fun i hi hlt => ?_⟩
      exact List.ne_nil_of_mem (List.mem_filter.mpr ⟨List.mem_range.mpr hi, decide_eq_true hlt⟩)
        (List.getLast?_eq_none_iff.mp hg)

/-! ### the branch before the loop -/

theorem pre_of_all_neg {E : Nat → Rat → Rat} {cfg : Cfg} {xr : Nat}
    (a : E 0 cfg.minH < 0) (b : E 0 cfg.maxH < 0) (c : E xr cfg.maxH < 0) :
    pre E cfg xr = .inl (if cfg.cont then .selected 0 cfg.minH .tooSmallCont else .valueError) := by
  simp [pre, sign_neg a, sign_neg b, sign_neg c, Gen.checkBracket, a]

theorem pre_of_all_pos {E : Nat → Rat → Rat} {cfg : Cfg} {xr : Nat}
    (a : 0 < E 0 cfg.minH) (b : 0 < E 0 cfg.maxH) (c : 0 < E xr cfg.maxH) :
    pre E cfg xr = .inl (if cfg.cont then .selected xr cfg.maxH .tooBigCont else .valueError) := by
  simp [pre, sign_pos a, sign_pos b, sign_pos c, Gen.checkBracket, a.not_gt, c]

theorem pre_of_pos_pos_neg {E : Nat → Rat → Rat} {cfg : Cfg} {xr : Nat}
    (a : 0 < E 0 cfg.minH) (b : 0 < E 0 cfg.maxH) (c : E xr cfg.maxH < 0) : pre E cfg xr = .inr 1 := by
  simp [pre, sign_pos a, sign_pos b, sign_neg c, Gen.checkBracket]

theorem pre_of_neg_neg_pos {E : Nat → Rat → Rat} {cfg : Cfg} {xr : Nat}
    (a : E 0 cfg.minH < 0) (b : E 0 cfg.maxH < 0) (c : 0 < E xr cfg.maxH) : pre E cfg xr = .inr (-1) := by
  simp [pre, sign_neg a, sign_neg b, sign_pos c, Gen.checkBracket]

/-- It goes on with the bisection exactly when the first two excesses have the same strict sign and the
    third the opposite one: the code's last `else: pass` arm is never taken. -/
theorem pre_cases (E : Nat → Rat → Rat) (cfg : Cfg) (xr : Nat) :
    (pre E cfg xr = .inl (.pyError .zeroDiv) ∧
        (E 0 cfg.minH = 0 ∨ E 0 cfg.maxH = 0 ∨ E xr cfg.maxH = 0)) ∨
    (pre E cfg xr = .inl (.selected 0 cfg.maxH .bracket0) ∧
        ((E 0 cfg.minH < 0 ∧ 0 < E 0 cfg.maxH) ∨ (E 0 cfg.maxH < 0 ∧ 0 < E 0 cfg.minH))) ∨
    (pre E cfg xr = .inl (if cfg.cont then .selected 0 cfg.minH .tooSmallCont else .valueError) ∧
        E 0 cfg.minH < 0 ∧ E 0 cfg.maxH < 0 ∧ E xr cfg.maxH < 0) ∨
    (pre E cfg xr = .inl (if cfg.cont then .selected xr cfg.maxH .tooBigCont else .valueError) ∧
        0 < E 0 cfg.minH ∧ 0 < E 0 cfg.maxH ∧ 0 < E xr cfg.maxH) ∨
    (∃ ls, pre E cfg xr = .inr ls ∧ Gen.sign (E 0 cfg.maxH) = .ok ls ∧
        ((0 < E 0 cfg.minH ∧ 0 < E 0 cfg.maxH ∧ E xr cfg.maxH < 0) ∨
         (E 0 cfg.minH < 0 ∧ E 0 cfg.maxH < 0 ∧ 0 < E xr cfg.maxH))) := by
  rcases lt_trichotomy (E 0 cfg.minH) 0 with a | a | a
  · rcases lt_trichotomy (E 0 cfg.maxH) 0 with b | b | b
    · rcases lt_trichotomy (E xr cfg.maxH) 0 with c | c | c
      · exact Or.inr (Or.inr (Or.inl ⟨pre_of_all_neg a b c, a, b, c⟩))
      · exact Or.inl ⟨by simp [pre, sign_neg a, sign_neg b, c, sign_zero, Gen.checkBracket], Or.inr (Or.inr c)⟩
      · exact Or.inr (Or.inr (Or.inr (Or.inr ⟨-1, pre_of_neg_neg_pos a b c, sign_neg b, Or.inr ⟨a, b, c⟩⟩)))
    · exact Or.inl ⟨by simp [pre, sign_neg a, b, sign_zero], Or.inr (Or.inl b)⟩
    · exact Or.inr (Or.inl ⟨by simp [pre, sign_neg a, sign_pos b, Gen.checkBracket], Or.inl ⟨a, b⟩⟩)
  · exact Or.inl ⟨by simp [pre, a, sign_zero], Or.inl a⟩
  · rcases lt_trichotomy (E 0 cfg.maxH) 0 with b | b | b
    · exact Or.inr (Or.inl ⟨by simp [pre, sign_pos a, sign_neg b, Gen.checkBracket], Or.inr ⟨b, a⟩⟩)
    · exact Or.inl ⟨by simp [pre, sign_pos a, b, sign_zero], Or.inr (Or.inl b)⟩
    · rcases lt_trichotomy (E xr cfg.maxH) 0 with c | c | c
      · exact Or.inr (Or.inr (Or.inr (Or.inr ⟨1, pre_of_pos_pos_neg a b c, sign_pos b, Or.inl ⟨a, b, c⟩⟩)))
      · exact Or.inl ⟨by simp [pre, sign_pos a, sign_pos b, c, sign_zero, Gen.checkBracket], Or.inr (Or.inr c)⟩
      · exact Or.inr (Or.inr (Or.inr (Or.inl ⟨pre_of_all_pos a b c, a, b, c⟩)))

theorem pre_inr {E : Nat → Rat → Rat} {cfg : Cfg} {xr : Nat} {ls : Int} (h : pre E cfg xr = .inr ls) :
    (E 0 cfg.maxH < 0 ∧ 0 < E xr cfg.maxH) ∨ (E xr cfg.maxH < 0 ∧ 0 < E 0 cfg.maxH) := by
  rcases pre_cases E cfg xr with ⟨e, _⟩ | ⟨e, _⟩ | ⟨e, _⟩ | ⟨e, _⟩ | ⟨_, _, _, hs⟩
  · rw [e] at h; cases h
  · rw [e] at h; cases h
  · rw [e] at h; cases h
  · rw [e] at h; cases h
  · rcases hs with ⟨_, b, c⟩ | ⟨_, b, c⟩
    · exact Or.inr ⟨c, b⟩
    · exact Or.inl ⟨b, c⟩

/-! ### the dict of remembered excesses -/

theorem mem_dictSet_self (d : Dict) (k : Nat) (v : Rat) : (k, v) ∈ dictSet d k v := by
  induction d with
  | nil => exact List.mem_singleton.mpr rfl
  | cons x d ih => unfold dictSet; split <;> simp [ih]

theorem mem_dictSet_of_mem_ne (d : Dict) (k : Nat) (v : Rat) (a : Nat) (b : Rat)
    (h : (a, b) ∈ d) (hne : a ≠ k) : (a, b) ∈ dictSet d k v := by
  induction d with
  | nil => cases h
  | cons x d ih =>
    unfold dictSet
    split
    · -- the head is replaced; `(a, b)` has another key, so it was in the tail
      rename_i hk
      rcases List.mem_cons.mp h with rfl | h
      · exact absurd hk hne
      · exact List.mem_cons_of_mem _ h
    · rcases List.mem_cons.mp h with rfl | h
      · exact List.mem_cons_self
      · exact List.mem_cons_of_mem _ (ih h)

theorem mem_of_mem_dictSet (d : Dict) (k : Nat) (v : Rat) (a : Nat) (b : Rat)
    (h : (a, b) ∈ dictSet d k v) : (a, b) ∈ d ∨ (a, b) = (k, v) := by
  induction d with
  | nil => exact Or.inr (List.mem_singleton.mp h)
  | cons x d ih =>
    unfold dictSet at h
    split at h <;> rcases List.mem_cons.mp h with h | h
    · exact Or.inr h
    · exact Or.inl (List.mem_cons_of_mem _ h)
    · exact Or.inl (by rw [h]; exact List.mem_cons_self)
    · exact (ih h).imp_left (List.mem_cons_of_mem _)

/-- Every remembered value is the oracle's. -/
def MemOK (E : Nat → Rat → Rat) (maxH : Rat) (d : Dict) : Prop := ∀ kv ∈ d, kv.2 = E kv.1 maxH

theorem MemOK.set {E : Nat → Rat → Rat} {maxH : Rat} {d : Dict} (h : MemOK E maxH d) (k : Nat) :
    MemOK E maxH (dictSet d k (E k maxH)) := by
  intro kv hkv
  obtain ⟨a, b⟩ := kv
  rcases mem_of_mem_dictSet d k _ a b hkv with h' | h'
  · exact h _ h'
  · injection h' with h1 h2; subst h1; exact h2

theorem MemOK.mono {E : Nat → Rat → Rat} {maxH : Rat} {d : Dict} (h : MemOK E maxH d) (k : Nat)
    (kv : Nat × Rat) (hkv : kv ∈ d) : kv ∈ dictSet d k (E k maxH) := by
  obtain ⟨a, b⟩ := kv
  by_cases hak : a = k
  · have : b = E a maxH := h _ hkv
    subst hak; rw [this]; exact mem_dictSet_self _ _ _
  · exact mem_dictSet_of_mem_ne d k _ a b hkv hak

/-! ### the loop -/

theorem mid_between {s : St} (hlr : s.l ≤ s.r) (h1 : mid s ≠ s.l) (h2 : mid s ≠ s.r) :
    s.l < mid s ∧ mid s < s.r := by
  unfold mid at *; omega

theorem mid_halves {s : St} {p : Nat} (hlr : s.l ≤ s.r) (hp : s.r - s.l ≤ 2 * p) :
    mid s - s.l ≤ p ∧ s.r - mid s ≤ p := by
  unfold mid; omega

theorem stepSt_bracket (E : Nat → Rat → Rat) (maxH : Rat) (lsign : Int) (s : St) (c : Nat) (cs : Int) :
    ((stepSt E maxH lsign s c cs).l = c ∧ (stepSt E maxH lsign s c cs).r = s.r) ∨
    ((stepSt E maxH lsign s c cs).l = s.l ∧ (stepSt E maxH lsign s c cs).r = c) := by
  by_cases h : cs = lsign <;> simp [stepSt, h]

/-- An invariant `P` (it may mention the remaining budget) kept by every step holds at either exit:
    the regular one, or when `sign` raises on a midpoint. -/
theorem loop_rule (E : Nat → Rat → Rat) (maxH : Rat) (lsign : Int) (P : Nat → Nat → St → Prop)
    (hstep : ∀ f i s cs, P (f + 1) i s → mid s ≠ s.l → mid s ≠ s.r → Gen.sign (E (mid s) maxH) = .ok cs →
      P f (i + 1) (stepSt E maxH lsign s (mid s) cs)) :
    ∀ fuel i s, P fuel i s → ∀ i' s' oe, loop E maxH lsign fuel i s = (i', s', oe) →
      match oe with
      | none => ∃ f', P f' i' s' ∧ (f' = 0 ∨ mid s' = s'.l ∨ mid s' = s'.r)
      | some e => ∃ f' s'', P (f' + 1) i' s'' ∧ mid s'' ≠ s''.l ∧ mid s'' ≠ s''.r ∧
          Gen.sign (E (mid s'') maxH) = .error e ∧ s' = evalSt E maxH s'' (mid s'') := by
  intro fuel
  induction fuel with
  | zero =>
    intro i s h i' s' oe e
    cases e
    exact ⟨0, h, Or.inl rfl⟩
  | succ f ih =>
    intro i s h i' s' oe e
    unfold loop at e
    split at e
    · rename_i hc
      cases e
      exact ⟨f + 1, h, Or.inr hc⟩
    · rename_i hc
      rw [not_or] at hc
      split at e
      · rename_i hs
        cases e
        exact ⟨f, s, h, hc.1, hc.2, hs, rfl⟩
      · rename_i cs hs
        exact ih _ _ (hstep f i s cs h hc.1 hc.2 hs) _ _ _ e

theorem loop_raises {E : Nat → Rat → Rat} {maxH : Rat} {lsign : Int} {fuel i i' : Nat} {s s' : St} {e : PyErr}
    (hlr : s.l ≤ s.r) (h : loop E maxH lsign fuel i s = (i', s', some e)) :
    e = .zeroDiv ∧ ∃ c, s.l < c ∧ c < s.r ∧ E c maxH = 0 := by
  obtain ⟨_, t, ⟨h1, h2, h3⟩, m1, m2, hs, _⟩ :=
    loop_rule E maxH lsign (fun _ _ t => s.l ≤ t.l ∧ t.l ≤ t.r ∧ t.r ≤ s.r) (by
      intro f i t cs ⟨h1, h2, h3⟩ m1 m2 _
      obtain ⟨b1, b2⟩ := mid_between h2 m1 m2
      rcases stepSt_bracket E maxH lsign t (mid t) cs with ⟨e1, e2⟩ | ⟨e1, e2⟩ <;> rw [e1, e2]
      exacts [⟨le_trans h1 b1.le, b2.le, h3⟩, ⟨h1, b1.le, le_trans b2.le h3⟩])
      fuel i s ⟨le_refl _, hlr, le_refl _⟩ _ _ _ h
  obtain ⟨z, rfl⟩ := sign_error_iff.mp hs
  obtain ⟨b1, b2⟩ := mid_between h2 m1 m2
  exact ⟨rfl, mid t, lt_of_le_of_lt h1 b1, lt_of_lt_of_le b2 h3, z⟩

/-- No monotonicity of the excess is needed. -/
theorem loop_straddles {E : Nat → Rat → Rat} {maxH : Rat} {ls : Int} {fuel i i' : Nat} {s s' : St}
    (hl : Gen.sign (E s.l maxH) = .ok ls) (hr : ∃ cs, Gen.sign (E s.r maxH) = .ok cs ∧ cs ≠ ls)
    (h : loop E maxH ls fuel i s = (i', s', none)) :
    Gen.sign (E s'.l maxH) = .ok ls ∧ ∃ cs, Gen.sign (E s'.r maxH) = .ok cs ∧ cs ≠ ls :=
  let ⟨_, hP, _⟩ := loop_rule E maxH ls
    (fun _ _ t => Gen.sign (E t.l maxH) = .ok ls ∧ ∃ cs, Gen.sign (E t.r maxH) = .ok cs ∧ cs ≠ ls) (by
      intro _ _ t cs ⟨a, b⟩ _ _ hs
      by_cases hcs : cs = ls
      · simp only [stepSt, hcs, if_true]; exact ⟨hcs ▸ hs, b⟩
      · simp only [stepSt, hcs, if_false]; exact ⟨a, cs, hs, hcs⟩)
    fuel i s ⟨hl, hr⟩ _ _ _ h
  hP

theorem loop_adjacent {E : Nat → Rat → Rat} {maxH : Rat} {lsign : Int} {fuel i i' : Nat} {s s' : St}
    (hlr : s.l < s.r) (hg : s.r - s.l ≤ 2 ^ fuel) (h : loop E maxH lsign fuel i s = (i', s', none)) :
    s'.r = s'.l + 1 := by
  obtain ⟨f', ⟨h1, h2⟩, hstop⟩ :=
    loop_rule E maxH lsign (fun f _ t => t.l < t.r ∧ t.r - t.l ≤ 2 ^ f) (by
      intro f i t cs ⟨h1, h2⟩ m1 m2 _
      obtain ⟨b1, b2⟩ := mid_between h1.le m1 m2
      rw [pow_succ, Nat.mul_comm] at h2
      obtain ⟨q1, q2⟩ := mid_halves h1.le h2
      rcases stepSt_bracket E maxH lsign t (mid t) cs with ⟨e1, e2⟩ | ⟨e1, e2⟩ <;> rw [e1, e2]
      exacts [⟨b2, q2⟩, ⟨b1, q1⟩])
      fuel i s ⟨hlr, hg⟩ _ _ _ h
  rcases hstop with rfl | hm
  · rw [pow_zero] at h2; omega
  · unfold mid at hm; omega

/-! ### the invariant -/

/-- `mem` (`calculated_temperatures`) holds exactly the candidates evaluated at maximum height; the final
    pick ranges over `mem`, the property theorems over `trace`: hence both `memTr` and `trMem`. -/
structure Inv (E : Nat → Rat → Rat) (maxH : Rat) (xr : Nat) (i : Nat) (s : St) : Prop where
  lr : s.l ≤ s.r
  rxr : s.r ≤ xr
  /-- So `i ≤ xr`: after the loop the code evaluates `coordinates_domain[i]` once more (an `IndexError`
      past the list). -/
  ib : i + (s.r - s.l) ≤ xr
  memOK : MemOK E maxH s.mem
  keysLe : ∀ kv ∈ s.mem, kv.1 ≤ xr
  lIn : (s.l, E s.l maxH) ∈ s.mem
  rIn : (s.r, E s.r maxH) ∈ s.mem
  memTr : ∀ kv ∈ s.mem, (kv.1, maxH) ∈ s.trace
  trMem : ∀ k, (k, maxH) ∈ s.trace → (k, E k maxH) ∈ s.mem
  /-- One of the two initial evaluations is feasible, so the final pick finds a negative excess. -/
  zeroIn : (0, E 0 maxH) ∈ s.mem
  xrIn : (xr, E xr maxH) ∈ s.mem

def st0 (E : Nat → Rat → Rat) (cfg : Cfg) (xr : Nat) : St :=
  { l := 0, r := xr, mem := mem0 E cfg xr, trace := tr0 cfg xr }

theorem mem0_mem (E : Nat → Rat → Rat) (cfg : Cfg) (xr : Nat) (kv : Nat × Rat) :
    kv ∈ mem0 E cfg xr ↔ kv = (0, E 0 cfg.maxH) ∨ kv = (xr, E xr cfg.maxH) := by
  unfold mem0
  by_cases h : xr = 0
  · subst h; simp [dictSet]
  · simp [dictSet, Ne.symm h]

theorem inv_init (E : Nat → Rat → Rat) (cfg : Cfg) (xr : Nat) :
    Inv E cfg.maxH xr 0 (st0 E cfg xr) := by
  constructor <;> simp only [st0, MemOK, mem0_mem, tr0] <;> simp
  -- `simp` leaves `trMem`
  case trMem => rintro k (⟨rfl, _⟩ | rfl | rfl) <;> simp

/-- The loop's step moves one end of the bracket to `c`, the extra evaluation after the loop none. -/
theorem Inv.eval {E : Nat → Rat → Rat} {maxH : Rat} {xr i : Nat} {s : St} (h : Inv E maxH xr i s)
    (c : Nat) (hc : c ≤ xr) {i' l' r' : Nat} (hl : l' = s.l ∨ l' = c) (hr : r' = s.r ∨ r' = c)
    (hlr : l' ≤ r') (hrx : r' ≤ xr) (hib : i' + (r' - l') ≤ xr) :
    Inv E maxH xr i' { l := l', r := r', mem := dictSet s.mem c (E c maxH), trace := s.trace ++ [(c, maxH)] } := by
  have hmono := h.memOK.mono c
  have hself := mem_dictSet_self s.mem c (E c maxH)
  refine ⟨hlr, hrx, hib, h.memOK.set c, ?_, ?_, ?_, ?_, ?_, hmono _ h.zeroIn, hmono _ h.xrIn⟩
  · intro kv hkv
    rcases mem_of_mem_dictSet _ _ _ kv.1 kv.2 hkv with h' | h'
    · exact h.keysLe _ h'
    · rw [(Prod.mk.inj h').1]; exact hc
  · rcases hl with rfl | rfl
    · exact hmono _ h.lIn
    · exact hself
  · rcases hr with rfl | rfl
    · exact hmono _ h.rIn
    · exact hself
  · intro kv hkv
    rcases mem_of_mem_dictSet _ _ _ kv.1 kv.2 hkv with h' | h'
    · exact List.mem_append_left _ (h.memTr _ h')
    · rw [(Prod.mk.inj h').1]; exact List.mem_append_right _ (List.mem_singleton.mpr rfl)
  · intro k hk
    rcases List.mem_append.mp hk with hk | hk
    · exact hmono _ (h.trMem k hk)
    · rw [(Prod.mk.inj (List.mem_singleton.mp hk)).1]; exact hself

theorem inv_final (E : Nat → Rat → Rat) (cfg : Cfg) (lsign : Int) (xr : Nat) (i' : Nat) (s' : St)
    (e : loop E cfg.maxH lsign cfg.maxIter 0 (st0 E cfg xr) = (i', s', none)) :
    Inv E cfg.maxH xr i' s' := by
  obtain ⟨_, h, _⟩ := loop_rule E cfg.maxH lsign (fun _ => Inv E cfg.maxH xr) (by
      intro _ i s cs h h1 h2 _
      obtain ⟨b1, b2⟩ := mid_between h.lr h1 h2
      have := h.ib
      unfold stepSt
      by_cases hcs : cs = lsign
      · simp only [hcs, if_true]
        exact h.eval (mid s) (b2.le.trans h.rxr) (Or.inr rfl) (Or.inl rfl) b2.le h.rxr (by omega)
      · simp only [hcs, if_false]
        exact h.eval (mid s) (b2.le.trans h.rxr) (Or.inl rfl) (Or.inr rfl) b1.le (b2.le.trans h.rxr) (by omega))
    _ _ _ (inv_init E cfg xr) _ _ _ e
  exact h

/-- No invariant about `kth`: the bracket straddles a sign change (`loop_straddles`), hence by
    monotonicity the threshold, and it ends adjacent (`loop_adjacent`). -/
theorem loop_ends_at_threshold {E : Nat → Rat → Rat} {cfg : Cfg} {xr kth i : Nat} {s : St}
    (hk0 : 0 < kth) (hkx : kth ≤ xr)
    (hmono : ∀ i, i ≤ xr → (E i cfg.maxH < 0 ↔ kth ≤ i)) (hE0 : 0 < E 0 cfg.maxH)
    (hfuel : xr ≤ 2 ^ cfg.maxIter)
    (hl : loop E cfg.maxH 1 cfg.maxIter 0 (st0 E cfg xr) = (i, s, none)) :
    s.l = kth - 1 ∧ s.r = kth ∧ (kth - 1, cfg.maxH) ∈ s.trace ∧ (kth, cfg.maxH) ∈ s.trace := by
  have hinv := inv_final E cfg 1 xr i s hl
  have hrx := hinv.rxr
  have hlr := hinv.lr
  obtain ⟨hsl, cs, hsr, hne⟩ := loop_straddles (s := st0 E cfg xr) (sign_pos hE0)
    ⟨-1, sign_neg ((hmono xr (le_refl _)).mpr hkx), by decide⟩ hl
  have a : s.l < kth := by
    rcases sign_ok_iff.mp hsl with ⟨hp, _⟩ | ⟨_, hc⟩
    · exact Nat.lt_of_not_le fun hge => lt_asymm hp ((hmono s.l (le_trans hlr hrx)).mpr hge)
    · exact absurd hc (by decide)
  have b : kth ≤ s.r := by
    rcases sign_ok_iff.mp hsr with ⟨_, hc⟩ | ⟨hn, _⟩
    · exact absurd hc hne
    · exact (hmono s.r hrx).mp hn
  have hadj : s.r = s.l + 1 := loop_adjacent (Nat.lt_of_lt_of_le hk0 hkx) hfuel hl
  have hr : s.r = kth := le_antisymm (hadj.trans_le a) b
  have hl' : s.l = kth - 1 := Nat.eq_sub_of_add_eq (hadj.symm.trans hr)
  exact ⟨hl', hr, hl' ▸ hinv.memTr _ hinv.lIn, hr ▸ hinv.memTr _ hinv.rIn⟩

/-! ### the final pick -/

theorem lexLt_iff (a b : Nat × Rat) : lexLt a b = true ↔ a.1 < b.1 ∨ (a.1 = b.1 ∧ a.2 < b.2) := by
  unfold lexLt; simp

theorem lexLt_iff_toLex (a b : Nat × Rat) : lexLt a b = true ↔ toLex a < toLex b :=
  (lexLt_iff a b).trans Prod.Lex.toLex_lt_toLex.symm

/-- The fold is the library's `argmin` over the negative entries, in the order of `Nat ×ₗ Rat`: what it returns
    is said by `List.argmin_mem`, `List.le_of_mem_argmin`, `List.argmin_eq_none`. -/
theorem lexMinNeg_eq (l : List (Nat × Rat)) :
    lexMinNeg l = (l.filter fun x => decide (x.2 < 0)).argmin toLex := by
  unfold lexMinNeg List.argmin
  rw [List.foldl_filter]
  congr
  funext acc x
  cases acc <;> simp [lexStep, List.argAux, lexLt_iff_toLex]

theorem keyOfValue_some {d : Dict} {v : Rat} {k : Nat} (h : keyOfValue d v = some k) : (k, v) ∈ d := by
  obtain ⟨kv, hf, rfl⟩ := Option.map_eq_some_iff.mp h
  have := List.find?_some hf
  rw [decide_eq_true_eq] at this
  subst this
  exact List.mem_of_find?_eq_some hf

theorem keyOfValue_exists {d : Dict} {v : Rat} (h : ∃ k, (k, v) ∈ d) : ∃ k, keyOfValue d v = some k := by
  obtain ⟨k, hk⟩ := h
  unfold keyOfValue
  cases hf : d.find? (fun kv => decide (kv.2 = v)) with
  | none => exact absurd rfl (of_decide_eq_false (Bool.eq_false_iff.mpr (List.find?_eq_none.mp hf _ hk)))
  | some kv => exact ⟨kv.1, rfl⟩

theorem keyOfPair_some {counts : List Nat} {d : Dict} {m : Nat × Rat} {k : Nat} (h : keyOfPair counts d m = some k) :
    (k, m.2) ∈ d ∧ counts.getD k 0 = m.1 := by
  obtain ⟨kv, hkv, rfl⟩ := List.mem_map.mp (List.min?_mem h)
  obtain ⟨hmem, hc⟩ := List.mem_filter.mp hkv
  simp only [Bool.and_eq_true, decide_eq_true_eq] at hc
  exact ⟨hc.2 ▸ hmem, hc.1⟩

theorem keyOfPair_exists {counts : List Nat} {d : Dict} {m : Nat × Rat} (h : ∃ kv ∈ d, (counts.getD kv.1 0, kv.2) = m) :
    ∃ k, keyOfPair counts d m = some k := by
  obtain ⟨kv, hkv, rfl⟩ := h
  unfold keyOfPair
  cases hmin : ((d.filter (fun kv' => decide (counts.getD kv'.1 0 = counts.getD kv.1 0) && decide (kv'.2 = kv.2))).map (·.1)).min? with
  | some k => exact ⟨k, rfl⟩
  | none =>
    exact absurd (List.min?_eq_none_iff.mp hmin) (List.ne_nil_of_mem
      (List.mem_map.mpr ⟨kv, List.mem_filter.mpr ⟨hkv, by simp⟩, rfl⟩))

theorem finalPick_neg {counts : List Nat} {mem : Dict} (hneg : ∃ kv ∈ mem, kv.2 < 0) :
    ∃ k v, finalPick counts mem = some k ∧ (k, v) ∈ mem ∧ v < 0 ∧
      ∀ kv ∈ mem, kv.2 < 0 → ¬ lexLt (counts.getD kv.1 0, kv.2) (counts.getD k 0, v) = true := by
  obtain ⟨kv0, hkv0, hkv0neg⟩ := hneg
  have hin : ∀ kv ∈ mem, kv.2 < 0 → (counts.getD kv.1 0, kv.2) ∈
      (mem.map fun kv => (counts.getD kv.1 0, kv.2)).filter fun x => decide (x.2 < 0) :=
    fun kv hkv hn => List.mem_filter.mpr ⟨List.mem_map.mpr ⟨kv, hkv, rfl⟩, decide_eq_true hn⟩
  -- a non-positive value exists, so `max(...)` does not raise
  obtain ⟨_, _, hl⟩ := List.exists_cons_of_ne_nil (List.ne_nil_of_mem (List.mem_filter.mpr
    ⟨List.mem_map.mpr ⟨kv0, hkv0, rfl⟩, decide_eq_true hkv0neg.le⟩ :
      kv0.2 ∈ (mem.map (·.2)).filter fun v => decide (v ≤ 0)))
  unfold finalPick
  simp only [hl, maxOf, lexMinNeg_eq]
  split
  · rename_i m hm
    obtain ⟨hm1, hm2⟩ := List.mem_filter.mp (List.argmin_mem hm)
    obtain ⟨kvm, hkvm, hkvm_eq⟩ := List.mem_map.mp hm1
    obtain ⟨k, hk⟩ := keyOfPair_exists (counts := counts) ⟨kvm, hkvm, hkvm_eq⟩
    obtain ⟨hkmem, hkc⟩ := keyOfPair_some hk
    refine ⟨k, m.2, hk, hkmem, of_decide_eq_true hm2, fun kv hkv hn => ?_⟩
    rw [hkc, lexLt_iff_toLex]
    exact not_lt.mpr (List.le_of_mem_argmin (hin kv hkv hn) hm)
  · rename_i hm
    exact absurd (List.argmin_eq_none.mp hm) (List.ne_nil_of_mem (hin kv0 hkv0 hkv0neg))

/-- The extra evaluation is one more `Inv.eval`, so the pick is made among everything evaluated at
    maximum height. -/
theorem finish_pick {counts : List Nat} {E : Nat → Rat → Rat} {cfg : Cfg} {xr i : Nat} {s : St}
    (hinv : Inv E cfg.maxH xr i s) (hlen : xr < counts.length) (hneg : ∃ kv ∈ s.mem, kv.2 < 0) :
    ∃ k, finish counts E cfg i s = (.selected k cfg.maxH .bisection, s.trace ++ [(i, cfg.maxH)]) ∧
      E k cfg.maxH < 0 ∧ k ≤ xr ∧ (k, cfg.maxH) ∈ s.trace ++ [(i, cfg.maxH)] ∧
      ∀ j, (j, cfg.maxH) ∈ s.trace ++ [(i, cfg.maxH)] → E j cfg.maxH < 0 →
        ¬ lexLt (counts.getD j 0, E j cfg.maxH) (counts.getD k 0, E k cfg.maxH) = true := by
  have hi : i ≤ xr := (Nat.le_add_right _ _).trans hinv.ib
  have hinv' := hinv.eval i hi (Or.inl rfl) (Or.inl rfl) hinv.lr hinv.rxr hinv.ib
  obtain ⟨k, v, hfp, hkmem, hv, hmin⟩ := finalPick_neg (counts := counts)
    (let ⟨kv, hkv, hn⟩ := hneg; ⟨kv, hinv.memOK.mono i kv hkv, hn⟩)
  have hEk : v = E k cfg.maxH := hinv'.memOK _ hkmem
  refine ⟨k, ?_, hEk ▸ hv, hinv'.keysLe _ hkmem, hinv'.memTr _ hkmem, ?_⟩
  · unfold finish
    rw [if_neg (Nat.not_le.mpr (lt_of_le_of_lt hi hlen))]
    simp only [hfp]
  · intro j hj hjn
    rw [← hEk]
    exact hmin _ (hinv'.trMem j hj) hjn

/-- `finish_pick` with a second witness `k'`, for which `k` itself serves (since the F32 repair the key
    is carried through the sort). -/
theorem finish_selects {counts : List Nat} {E : Nat → Rat → Rat} {cfg : Cfg} {xr i : Nat} {s : St}
    (hinv : Inv E cfg.maxH xr i s) (hlen : xr < counts.length) (hneg : ∃ kv ∈ s.mem, kv.2 < 0) :
    ∃ k k', finish counts E cfg i s = (.selected k cfg.maxH .bisection, s.trace ++ [(i, cfg.maxH)]) ∧
      E k cfg.maxH < 0 ∧ k ≤ xr ∧ (k, cfg.maxH) ∈ s.trace ++ [(i, cfg.maxH)] ∧
      (k', cfg.maxH) ∈ s.trace ++ [(i, cfg.maxH)] ∧ E k' cfg.maxH = E k cfg.maxH ∧
      (∀ j, (j, cfg.maxH) ∈ s.trace ++ [(i, cfg.maxH)] → E j cfg.maxH < 0 →
          ¬ lexLt (counts.getD j 0, E j cfg.maxH) (counts.getD k' 0, E k' cfg.maxH) = true) ∧
      counts.getD k 0 = counts.getD k' 0 := by
  obtain ⟨k, h1, h2, h3, h4, h5⟩ := finish_pick (counts := counts) hinv hlen hneg
  exact ⟨k, k, h1, h2, h3, h4, h4, rfl, h5, rfl⟩

/-! ### the whole run -/

theorem bisect1D_of_upper_error {counts : List Nat} {cfg : Cfg} {e : PyErr} (E : Nat → Rat → Rat)
    (hu : upperIndex counts cfg.cap = .error e) :
    bisect1D counts E cfg = (if e = .valueError then .valueError else .pyError e, []) := by
  unfold bisect1D; rw [hu]

theorem bisect1D_of_pre_inl {counts : List Nat} {cfg : Cfg} {xr : Nat} {E : Nat → Rat → Rat} {o : Outcome}
    (hu : upperIndex counts cfg.cap = .ok xr) (hp : pre E cfg xr = .inl o) :
    bisect1D counts E cfg = (o, tr0 cfg xr) := by
  unfold bisect1D
  rw [hu]
  simp only [hp]

/-- The bisection either raises on a zero excess inside the bracket or ends with the final pick. -/
theorem bisect1D_run {counts : List Nat} {cfg : Cfg} {xr : Nat} {E : Nat → Rat → Rat} {ls : Int}
    (hu : upperIndex counts cfg.cap = .ok xr) (hp : pre E cfg xr = .inr ls) :
    (∃ i s, loop E cfg.maxH ls cfg.maxIter 0 (st0 E cfg xr) = (i, s, some .zeroDiv) ∧
        bisect1D counts E cfg = (.pyError .zeroDiv, s.trace) ∧
        ∃ c, 0 < c ∧ c < xr ∧ E c cfg.maxH = 0) ∨
    (∃ i s k, loop E cfg.maxH ls cfg.maxIter 0 (st0 E cfg xr) = (i, s, none) ∧
        bisect1D counts E cfg = (.selected k cfg.maxH .bisection, s.trace ++ [(i, cfg.maxH)]) ∧
        k ≤ xr ∧ E k cfg.maxH < 0 ∧ (k, cfg.maxH) ∈ s.trace ++ [(i, cfg.maxH)] ∧
        ∀ j, (j, cfg.maxH) ∈ s.trace ++ [(i, cfg.maxH)] → E j cfg.maxH < 0 →
          counts.getD k 0 ≤ counts.getD j 0) := by
  -- `st0` unfolded: the model writes the initial state out
  unfold bisect1D st0
  rw [hu]
  simp only [hp]
  generalize hl : loop E cfg.maxH ls cfg.maxIter 0 _ = r
  obtain ⟨i, s, _ | er⟩ := r <;> simp only
  · have hinv := inv_final E cfg _ xr i s hl
    have hneg : ∃ kv ∈ s.mem, kv.2 < 0 := by
      rcases pre_inr hp with ⟨b, _⟩ | ⟨c, _⟩
      · exact ⟨_, hinv.zeroIn, b⟩
      · exact ⟨_, hinv.xrIn, c⟩
    obtain ⟨k, hf, hE, hle, hmem, hmin⟩ := finish_pick (counts := counts) hinv (upperIndex_ok hu).1 hneg
    refine Or.inr ⟨i, s, k, rfl, hf, hle, hE, hmem, fun j hj hn => ?_⟩
    have := hmin j hj hn
    rw [lexLt_iff, not_or] at this
    exact Nat.le_of_not_lt this.1
  · obtain ⟨rfl, hz⟩ := loop_raises (Nat.zero_le xr) hl
    exact Or.inl ⟨i, s, rfl, rfl, hz⟩

theorem bisect1D_selected {counts : List Nat} {E : Nat → Rat → Rat} {cfg : Cfg}
    {k : Nat} {h : Rat} {p : Path} {tr : List (Nat × Rat)}
    (hsel : bisect1D counts E cfg = (.selected k h p, tr)) :
    ∃ xr, upperIndex counts cfg.cap = .ok xr ∧ k ≤ xr ∧
      match p with
      | .bracket0 => k = 0 ∧ h = cfg.maxH ∧
          ((E 0 cfg.minH < 0 ∧ 0 < E 0 cfg.maxH) ∨ (E 0 cfg.maxH < 0 ∧ 0 < E 0 cfg.minH))
      | .tooSmallCont => cfg.cont = true ∧ k = 0 ∧ h = cfg.minH ∧
          E 0 cfg.minH < 0 ∧ E 0 cfg.maxH < 0 ∧ E xr cfg.maxH < 0
      | .tooBigCont => cfg.cont = true ∧ k = xr ∧ h = cfg.maxH ∧
          0 < E 0 cfg.minH ∧ 0 < E 0 cfg.maxH ∧ 0 < E xr cfg.maxH
      | .bisection => h = cfg.maxH ∧ E k cfg.maxH < 0 ∧ (k, cfg.maxH) ∈ tr ∧
          ∀ j, (j, cfg.maxH) ∈ tr → E j cfg.maxH < 0 → counts.getD k 0 ≤ counts.getD j 0 := by
  cases hu : upperIndex counts cfg.cap with
  | error e =>
    rw [bisect1D_of_upper_error E hu] at hsel
    by_cases he : e = .valueError <;> simp [he] at hsel
  | ok xr =>
    refine ⟨xr, rfl, ?_⟩
    rcases pre_cases E cfg xr with ⟨e, _⟩ | ⟨e, hs⟩ | ⟨e, hs⟩ | ⟨e, hs⟩ | ⟨_, e, _⟩
    · rw [bisect1D_of_pre_inl hu e] at hsel
      cases hsel
    · rw [bisect1D_of_pre_inl hu e] at hsel
      cases hsel
      exact ⟨Nat.zero_le _, rfl, rfl, hs⟩
    · rw [bisect1D_of_pre_inl hu e] at hsel
      by_cases hc : cfg.cont = true
      · rw [if_pos hc] at hsel; cases hsel
        exact ⟨Nat.zero_le _, hc, rfl, rfl, hs⟩
      · rw [if_neg hc] at hsel; cases hsel
    · rw [bisect1D_of_pre_inl hu e] at hsel
      by_cases hc : cfg.cont = true
      · rw [if_pos hc] at hsel; cases hsel
        exact ⟨le_refl _, hc, rfl, rfl, hs⟩
      · rw [if_neg hc] at hsel; cases hsel
    · rcases bisect1D_run hu e with ⟨_, _, _, hb, _⟩ | ⟨_, _, _, _, hb, hle, hE, hmem, hmin⟩ <;> rw [hb] at hsel
      · cases hsel
      · cases hsel; exact ⟨hle, rfl, hE, hmem, hmin⟩

/-- `IndexError`: empty list without cap.  `ZeroDivisionError`: `sign` on an evaluated excess of zero. -/
theorem bisect1D_pyError {counts : List Nat} {E : Nat → Rat → Rat} {cfg : Cfg} {e : PyErr}
    (h : (bisect1D counts E cfg).1 = .pyError e) :
    (e = .indexError ∧ counts = [] ∧ cfg.cap = none) ∨
    (e = .zeroDiv ∧ ∃ xr, upperIndex counts cfg.cap = .ok xr ∧
      (E 0 cfg.minH = 0 ∨ ∃ c, c ≤ xr ∧ E c cfg.maxH = 0)) := by
  cases hu : upperIndex counts cfg.cap with
  | error e' =>
    rw [bisect1D_of_upper_error E hu] at h
    rcases upperIndex_error hu with ⟨rfl, hc, hcap⟩ | ⟨rfl, _⟩
    · cases h; exact Or.inl ⟨rfl, hc, hcap⟩
    · cases h
  | ok xr =>
    rcases pre_cases E cfg xr with ⟨e, hz⟩ | ⟨e, _⟩ | ⟨e, _⟩ | ⟨e, _⟩ | ⟨_, e, _⟩
    · rw [bisect1D_of_pre_inl hu e] at h
      cases h
      refine Or.inr ⟨rfl, xr, rfl, ?_⟩
      rcases hz with hz | hz | hz
      · exact Or.inl hz
      · exact Or.inr ⟨0, Nat.zero_le _, hz⟩
      · exact Or.inr ⟨xr, le_refl _, hz⟩
    · rw [bisect1D_of_pre_inl hu e] at h
      cases h
    · rw [bisect1D_of_pre_inl hu e] at h
      by_cases hc : cfg.cont = true <;> simp [hc] at h
    · rw [bisect1D_of_pre_inl hu e] at h
      by_cases hc : cfg.cont = true <;> simp [hc] at h
    · rcases bisect1D_run hu e with ⟨_, _, _, hb, c, _, hc, hz⟩ | ⟨_, _, _, _, hb, _⟩ <;> rw [hb] at h
      · cases h; exact Or.inr ⟨rfl, xr, rfl, Or.inr ⟨c, hc.le, hz⟩⟩
      · cases h

/-! ### `utilities.solve_root` -/

/-- `int(v / abs(v))` in `solve_root` against `int(abs(x) / x)` in `utilities.sign`. -/
theorem sgn_eq_sign (v : Rat) : sgn v = Gen.sign v := by
  unfold sgn Gen.sign
  by_cases h : v = 0
  · subst h; rfl
  · have ha : ratAbs v ≠ 0 := by rw [ratAbs_eq_abs]; exact abs_ne_zero.mpr h
    rw [pyDiv_ok h, pyDiv_ok ha, ratAbs_eq_abs, (div_eq_div_iff (abs_ne_zero.mpr h) h).mpr (abs_mul_abs_self v).symm]
    rfl

/-- The last branch (`unchanged`, "return x") is never taken: a sign is `1` or `-1`. -/
theorem solveRoot_eq (x : Rat) (f : Rat → Rat) (lo hi brent : Rat) :
    solveRoot x f lo hi brent =
      if f lo = 0 ∨ f hi = 0 then .error .zeroDiv
      else if f lo < 0 ∧ f hi < 0 then .ok (.clampedLow, lo)
      else if 0 < f lo ∧ 0 < f hi then .ok (.clampedHigh, hi)
      else .ok (.bracketed, brent) := by
  unfold solveRoot
  rw [sgn_eq_sign, sgn_eq_sign]
  rcases lt_trichotomy (f lo) 0 with a | a | a <;> rcases lt_trichotomy (f hi) 0 with b | b | b
  · simp [sign_neg a, sign_neg b, a, b, a.ne, b.ne]
  · simp [sign_neg a, b, sign_zero]
  · simp [sign_neg a, sign_pos b, a.ne, b.ne', a.not_gt, b.not_gt]
  · simp [a, sign_zero]
  · simp [a, sign_zero]
  · simp [a, sign_zero]
  · simp [sign_pos a, sign_neg b, a.ne', b.ne, a.not_gt, b.not_gt]
  · simp [sign_pos a, b, sign_zero]
  · simp [sign_pos a, sign_pos b, a, b, a.ne', b.ne', a.not_gt, b.not_gt]

theorem solveRoot_ok {x : Rat} {f : Rat → Rat} {lo hi brent : Rat} {kind : RootKind} {H : Rat}
    (h : solveRoot x f lo hi brent = .ok (kind, H)) :
    (kind = .clampedLow ∧ H = lo ∧ f lo < 0 ∧ f hi < 0) ∨
    (kind = .clampedHigh ∧ H = hi ∧ 0 < f lo ∧ 0 < f hi) ∨
    (kind = .bracketed ∧ H = brent ∧ f lo ≠ 0 ∧ f hi ≠ 0) := by
  rw [solveRoot_eq] at h
  split_ifs at h with c0 c1 c2 <;> cases h
  exacts [Or.inl ⟨rfl, rfl, c1⟩, Or.inr (Or.inl ⟨rfl, rfl, c2⟩), Or.inr (Or.inr ⟨rfl, rfl, not_or.mp c0⟩)]

theorem solveRoot_ne_unchanged {x : Rat} {f : Rat → Rat} {lo hi brent : Rat} {kind : RootKind} {H : Rat}
    (h : solveRoot x f lo hi brent = .ok (kind, H)) : kind ≠ .unchanged := by
  rcases solveRoot_ok h with ⟨rfl, _⟩ | ⟨rfl, _⟩ | ⟨rfl, _⟩ <;> decide

theorem solveRoot_of_sign_change {x : Rat} {f : Rat → Rat} {lo hi brent : Rat}
    (hsig : (f lo < 0 ∧ 0 < f hi) ∨ (f hi < 0 ∧ 0 < f lo)) :
    solveRoot x f lo hi brent = .ok (.bracketed, brent) := by
  rw [solveRoot_eq]
  rcases hsig with ⟨a, b⟩ | ⟨b, a⟩
  · rw [if_neg (not_or.mpr ⟨a.ne, b.ne'⟩), if_neg (fun h => b.not_gt h.2), if_neg (fun h => a.not_gt h.1)]
  · rw [if_neg (not_or.mpr ⟨a.ne', b.ne⟩), if_neg (fun h => a.not_gt h.1), if_neg (fun h => b.not_gt h.2)]

/-- After a selection feasible at maximum height the both-positive clamp is impossible. -/
theorem solveRoot_after_feasible (x : Rat) (f : Rat → Rat) (lo hi brent : Rat)
    (hhi : f hi < 0) (hlo : f lo ≠ 0) :
    (f lo < 0 ∧ solveRoot x f lo hi brent = .ok (.clampedLow, lo)) ∨
    (0 < f lo ∧ solveRoot x f lo hi brent = .ok (.bracketed, brent)) := by
  rcases lt_or_gt_of_ne hlo with h | h
  · exact Or.inl ⟨h, by rw [solveRoot_eq, if_neg (not_or.mpr ⟨hlo, hhi.ne⟩), if_pos ⟨h, hhi⟩]⟩
  · exact Or.inr ⟨h, solveRoot_of_sign_change (Or.inr ⟨hhi, h⟩)⟩

end GHEVerif.Search
