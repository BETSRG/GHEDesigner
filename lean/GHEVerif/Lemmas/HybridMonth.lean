/- One month of `process_month_loads`: the entries `emitMonth` appends in closed form, their time
   integral (C06), their order and the placement of the pulses (C07, C08). -/
import GHEVerif.Lemmas.HybridCal
import Mathlib.Tactic.Linarith
import Mathlib.Tactic.LinearCombination

namespace GHEVerif.Hybrid
open GHEVerif

/-! ### sequences -/

/-- Time integral of a `(load, end hour)` sequence starting at hour `h0`:
    `Σ load_j · (hour_j − hour_{j−1})` (signed: a negative sub-step subtracts). -/
def integral : Rat → List (Rat × Rat) → Rat
  | _, [] => 0
  | h0, (q, h) :: t => q * (h - h0) + integral h t

/-- The last breakpoint of a sequence starting at `h0`. -/
def lastHour : Rat → List (Rat × Rat) → Rat
  | h0, [] => h0
  | _, (_, h) :: t => lastHour h t

theorem integral_append (h0 : Rat) (a b : List (Rat × Rat)) :
    integral h0 (a ++ b) = integral h0 a + integral (lastHour h0 a) b := by
  induction a generalizing h0 with
  | nil => simp [integral, lastHour]
  | cons x a ih => obtain ⟨q, h⟩ := x; simp [integral, lastHour, ih]; ring

/-- `(load, from, to)` for every entry of a sequence starting at `h0`. -/
def triples : Rat → List (Rat × Rat) → List (Rat × Rat × Rat)
  | _, [] => []
  | h0, (q, h) :: t => (q, h0, h) :: triples h t

/-- `Incr h0 l`: `h0 < l[0] < l[1] < …` -/
def Incr : Rat → List Rat → Prop
  | _, [] => True
  | h0, h :: t => h0 < h ∧ Incr h t

/-- `lastHour` on the hours alone. -/
def lastOf : Rat → List Rat → Rat
  | h0, [] => h0
  | _, h :: t => lastOf h t

theorem Incr_append (h0 : Rat) (a b : List Rat) : Incr h0 (a ++ b) ↔ Incr h0 a ∧ Incr (lastOf h0 a) b := by
  induction a generalizing h0 with
  | nil => simp [Incr, lastOf]
  | cons x a ih => simp [Incr, lastOf, ih, and_assoc]

theorem lastOf_append (h0 : Rat) (a b : List Rat) : lastOf h0 (a ++ b) = lastOf (lastOf h0 a) b := by
  induction a generalizing h0 with
  | nil => simp [lastOf]
  | cons x a ih => simp [lastOf, ih]

theorem Incr_lt_all {h0 : Rat} {l : List Rat} (h : Incr h0 l) : ∀ x ∈ l, h0 < x := by
  induction l generalizing h0 with
  | nil => simp
  | cons a l ih =>
    intro x hx
    obtain ⟨h1, h2⟩ := h
    rcases List.mem_cons.mp hx with rfl | hx
    · exact h1
    · exact lt_trans h1 (ih h2 x hx)

theorem Incr_pairwise {h0 : Rat} {l : List Rat} (h : Incr h0 l) : l.Pairwise (· < ·) := by
  induction l generalizing h0 with
  | nil => simp
  | cons a l ih =>
    obtain ⟨_, h2⟩ := h
    exact List.Pairwise.cons (Incr_lt_all h2) (ih h2)

theorem lastOf_hours (h0 : Rat) (l : List (Rat × Rat)) : lastOf h0 (l.map Prod.snd) = lastHour h0 l := by
  induction l generalizing h0 with
  | nil => rfl
  | cons x l ih => obtain ⟨q, h⟩ := x; simp [lastOf, lastHour, ih]

theorem lastHour_append (h0 : Rat) (a b : List (Rat × Rat)) :
    lastHour h0 (a ++ b) = lastHour (lastHour h0 a) b := by
  rw [← lastOf_hours, List.map_append, lastOf_append, lastOf_hours, lastOf_hours]

theorem lastHour_snoc {h0 : Rat} {pre : List (Rat × Rat)} {q h : Rat} : lastHour h0 (pre ++ [(q, h)]) = h := by
  rw [lastHour_append]; rfl

/-! ### peak hours -/

theorem delta_pos : (0 : Rat) < Gen.hybridDelta := by unfold Gen.hybridDelta; norm_num

theorem peakHours_len (fmh day : Int) (dur : Rat) (hd : 0 ≤ dur) :
    (peakHours fmh day dur).2 = (peakHours fmh day dur).1 + dur := by
  unfold peakHours
  simp only []
  -- what is left is that the second clamp is off: the start is `1e-6` or non-negative
  rw [if_neg]
  split_ifs with h
  · exact not_lt.2 (add_nonneg delta_pos.le hd)
  · exact not_lt.2 (add_nonneg (not_lt.1 h) hd)

/-- Noon of 0-based day `day` of a month whose first hour is `fmh` (the tool's 1-based labels). -/
def noonOf (fmh : Int) (day : Int) : Rat := (fmh : Rat) + (day : Rat) * 24 + 12

theorem peakHours_noclamp {fmh day : Int} {dur : Rat} (h : dur ≤ 2 * noonOf fmh day) :
    (peakHours fmh day dur).1 = noonOf fmh day - dur / 2 := by
  unfold peakHours noonOf at *
  have e1 : ((Gen.HRS_IN_DAY : Int) : Rat) = 24 := by simp [Gen.HRS_IN_DAY]
  have e2 : ((Gen.noonOffset : Int) : Rat) = 12 := by simp [Gen.noonOffset]
  rw [e1, e2]
  have : ¬ ((fmh : Rat) + (day : Rat) * 24 + 12 - dur / 2 < 0) := by linarith
  simp [this]

theorem peakHours_centered {fmh day : Int} {dur : Rat} (h : 0 ≤ dur ∧ dur ≤ 2 * noonOf fmh day) :
    (peakHours fmh day dur).1 = noonOf fmh day - dur / 2 ∧ (peakHours fmh day dur).2 = noonOf fmh day + dur / 2 := by
  have h1 := peakHours_noclamp h.2
  refine ⟨h1, ?_⟩
  rw [peakHours_len fmh day dur h.1, h1]; ring

/-! ### what a month emits -/

/-- A retained month: rate `ρ`, rejection pulse over `c`, extraction pulse over `h`.  On a shared day the
    extraction pulse follows the rejection pulse without an average entry between. -/
def monthShape (r : MonthRec) (ρ : Rat) (c h : Rat × Rat) (lm : Rat) : List (Rat × Rat) :=
  (if 0 < r.pcl then
    if 0 < r.phl then
      if r.dayc < r.dayh then [(ρ, c.1), (r.pcl, c.2), (ρ, h.1), (-r.phl, h.2)]
      else if r.dayh < r.dayc then [(ρ, h.1), (-r.phl, h.2), (ρ, c.1), (r.pcl, c.2)]
      else [(ρ, c.1), (r.pcl, c.2), (-r.phl, h.2)]
    else [(ρ, c.1), (r.pcl, c.2)]
  else if 0 < r.phl then [(ρ, h.1), (-r.phl, h.2)] else []) ++ [(ρ, lm)]

theorem monthShape_congr {r : MonthRec} {ρ lm : Rat} {c c' h h' : Rat × Rat} (hc : 0 < r.pcl → c = c')
    (hh : 0 < r.phl → h = h') : monthShape r ρ c h lm = monthShape r ρ c' h' lm := by
  unfold monthShape
  by_cases p : 0 < r.pcl <;> by_cases q : 0 < r.phl <;> simp only [p, q, if_true, if_false]
  · rw [hc p, hh q]
  · rw [hc p]
  · rw [hh q]

/-- On a shared peak day both pulses are shifted by half their length. -/
theorem monthSegments_eq (r : MonthRec) (rate fhc lhc fhh lhh lm : Rat) :
    monthSegments r true rate fhc lhc fhh lhh lm =
      monthShape r rate
        (fhc - (if r.dayc = r.dayh then r.dcl / 2 else 0), lhc - (if r.dayc = r.dayh then r.dcl / 2 else 0))
        (fhh + (if r.dayc = r.dayh then r.dhl / 2 else 0), lhh + (if r.dayc = r.dayh then r.dhl / 2 else 0)) lm := by
  unfold monthSegments monthShape
  rcases lt_trichotomy r.dayc r.dayh with d | d | d
  · have hne : r.dayc ≠ r.dayh := by omega
    by_cases c : 0 < r.pcl <;> by_cases h : 0 < r.phl <;> simp [d, hne, c, h]
  · by_cases c : 0 < r.pcl <;> by_cases h : 0 < r.phl <;> simp [d, c, h]
  · have hne : r.dayc ≠ r.dayh := by omega
    have nd : ¬ (r.dayc < r.dayh) := by omega
    by_cases c : 0 < r.pcl <;> by_cases h : 0 < r.phl <;> simp [d, nd, hne, c, h]

/-- Total length of the pulses a retained month emits. -/
def pulseHours (r : MonthRec) : Rat := (if r.pcl > 0 then r.dcl else 0) + (if r.phl > 0 then r.dhl else 0)

theorem ite_pos_mul (p d : Rat) (hp : 0 ≤ p) : (if 0 < p then p * d else 0) = p * d := by
  split_ifs with h
  · rfl
  · rw [le_antisymm (not_lt.1 h) hp, zero_mul]

/-- The hours are arbitrary (clamped pulses included): only the pulse lengths enter. -/
theorem monthSegments_integral (r : MonthRec) (ipf : Bool) (rate fhc lhc fhh lhh lm prev : Rat)
    (hp : 0 ≤ r.pcl ∧ 0 ≤ r.phl) (hc : lhc = fhc + r.dcl) (hh : lhh = fhh + r.dhl)
    (hsame : ipf = true → r.dayc = r.dayh → 0 < r.pcl → 0 < r.phl → fhc + r.dcl / 2 = fhh + r.dhl / 2) :
    integral prev (monthSegments r ipf rate fhc lhc fhh lhh lm) =
      rate * (lm - prev - (if ipf then pulseHours r else 0)) + (if ipf then r.pcl * r.dcl - r.phl * r.dhl else 0)
    ∧ lastHour prev (monthSegments r ipf rate fhc lhc fhh lhh lm) = lm := by
  subst hc hh
  cases ipf with
  | false => simp [monthSegments, integral, lastHour]
  | true =>
    -- right to left (a zero peak carries no energy), so that the split meets the same conditions on both sides
    rw [monthSegments_eq, ← ite_pos_mul r.pcl r.dcl hp.1, ← ite_pos_mul r.phl r.dhl hp.2]
    refine ⟨?_, lastHour_snoc⟩
    -- as atoms the shifts cancel, except where the pulses abut
    generalize hσc : (if r.dayc = r.dayh then r.dcl / 2 else 0) = σc
    generalize hσh : (if r.dayc = r.dayh then r.dhl / 2 else 0) = σh
    by_cases c : 0 < r.pcl <;> by_cases h : 0 < r.phl <;> simp only [monthShape, pulseHours, gt_iff_lt, c, h, if_true, if_false]
    split_ifs with d d'
    · simp only [List.cons_append, List.nil_append, integral]; ring
    · simp only [List.cons_append, List.nil_append, integral]; ring
    · -- shared day: the pulses abut (`hsame`)
      have e : r.dayc = r.dayh := by omega
      rw [if_pos e] at hσc hσh
      subst hσc hσh
      simp only [List.cons_append, List.nil_append, integral]
      linear_combination (rate + r.phl) * hsame rfl e c h
    · simp only [List.cons_append, List.nil_append, integral]; ring
    · simp only [List.cons_append, List.nil_append, integral]; ring
    · simp only [List.nil_append, integral]; ring

theorem emitMonth_eq (y : Int) (r : MonthRec) (ipf : Bool) (i : Int) (hi : 1 ≤ i) (rate : Rat)
    (hr : monthRate r ipf (mdays y i * 24) = .ok rate) :
    let c := peakHours (1 + lmh y (i - 1)) r.dayc r.dcl
    let h := peakHours (1 + lmh y (i - 1)) r.dayh r.dhl
    emitMonth y r ipf i = .ok (monthSegments r ipf rate c.1 c.2 h.1 h.2 ((lmh y i : Int) : Rat)) := by
  unfold emitMonth
  rw [monthdays_eq y i (by omega)]
  have e24 : Gen.HRS_IN_DAY = 24 := rfl
  simp only [bind, Except.bind, e24, hr]
  rw [firstMonthHour_eq y i hi, lastMonthHour_eq y i (by omega)]
  rfl

/-- `month_rate` of month `i` (0 when the division raises). -/
def rateOf (y : Int) (r : MonthRec) (ipf : Bool) (i : Int) : Rat :=
  match monthRate r ipf (mdays y i * 24) with
  | .ok v => v
  | .error _ => 0

/-- The month does not raise: the averaging period of a retained month is not empty. -/
def MonthRuns (y : Int) (r : MonthRec) (ipf : Bool) (i : Int) : Prop :=
  ipf = true → pulseHours r ≠ 24 * (mdays y i : Rat)

theorem monthRuns_of_lt {y : Int} {r : MonthRec} {ipf : Bool} {i : Int} (h : pulseHours r < 24 * 28) :
    MonthRuns y r ipf i := by
  intro _ e
  have : (28 : Rat) ≤ (mdays y i : Rat) := by exact_mod_cast mdays_ge y i
  linarith

theorem monthRate_runs (y : Int) (r : MonthRec) (ipf : Bool) (i : Int) (h : MonthRuns y r ipf i) :
    monthRate r ipf (mdays y i * 24) = .ok (rateOf y r ipf i) ∧
    rateOf y r ipf i * (24 * (mdays y i : Rat) - (if ipf then pulseHours r else 0)) =
      r.cl - r.hl - (if ipf then r.pcl * r.dcl - r.phl * r.dhl else 0) := by
  have hmR : (28 : Rat) ≤ (mdays y i : Rat) := by exact_mod_cast mdays_ge y i
  have e : monthRate r ipf (mdays y i * 24) = pyDiv (r.cl - r.hl - (if ipf then r.pcl * r.dcl - r.phl * r.dhl else 0))
      (24 * (mdays y i : Rat) - (if ipf then pulseHours r else 0)) := by
    cases ipf
    · simp only [monthRate, Bool.false_eq_true, if_false, sub_zero]
      congr 1; push_cast; ring
    · simp only [monthRate, pulseHours, if_true]
      congr 1 <;> push_cast <;> ring
  have hne : 24 * (mdays y i : Rat) - (if ipf then pulseHours r else 0) ≠ 0 := by
    cases ipf
    · simp only [Bool.false_eq_true, if_false]; linarith
    · exact sub_ne_zero.mpr (h rfl).symm
  unfold rateOf
  rw [e, pyDiv_ok hne]
  exact ⟨rfl, div_mul_cancel₀ _ hne⟩

theorem emitMonth_runs (y : Int) (r : MonthRec) (ipf : Bool) (i : Int) (hi : 1 ≤ i) (h : MonthRuns y r ipf i) :
    let c := peakHours (1 + lmh y (i - 1)) r.dayc r.dcl
    let h := peakHours (1 + lmh y (i - 1)) r.dayh r.dhl
    emitMonth y r ipf i = .ok (monthSegments r ipf (rateOf y r ipf i) c.1 c.2 h.1 h.2 ((lmh y i : Int) : Rat)) :=
  emitMonth_eq y r ipf i hi _ (monthRate_runs y r ipf i h).1

theorem emitMonth_last (y : Int) (r : MonthRec) (ipf : Bool) (i : Int) (hi : 1 ≤ i) (h : MonthRuns y r ipf i) :
    ∃ pre, emitMonth y r ipf i = .ok (pre ++ [(rateOf y r ipf i, ((lmh y i : Int) : Rat))]) := by
  rw [emitMonth_runs y r ipf i hi h]
  cases ipf with
  | false => exact ⟨[], by simp [monthSegments]⟩
  | true => exact ⟨_, congrArg _ (monthSegments_eq ..)⟩

/-! ### energy (C06) -/

/-- What the month-energy identity needs of a month's record. -/
structure MonthOK (y : Int) (r : MonthRec) (ipf : Bool) (i : Int) : Prop where
  peaks_nonneg : 0 ≤ r.pcl ∧ 0 ≤ r.phl
  durs_nonneg : 0 ≤ r.dcl ∧ 0 ≤ r.dhl
  /-- the averaging period (month minus emitted pulses) is not empty -/
  room : ipf = true → pulseHours r ≠ 24 * (mdays y i : Rat)
  /-- both pulses on one day: neither `first_hour_*_peak` is clamped to `1e-6` -/
  noclamp : ipf = true → r.dayc = r.dayh → 0 < r.pcl → 0 < r.phl →
    r.dcl ≤ 2 * noonOf (1 + lmh y (i - 1)) r.dayc ∧ r.dhl ≤ 2 * noonOf (1 + lmh y (i - 1)) r.dayh

theorem month_energy_ok (y : Int) (r : MonthRec) (ipf : Bool) (i : Int) (hi : 1 ≤ i) (h : MonthOK y r ipf i) :
    ∃ segs, emitMonth y r ipf i = .ok segs ∧
      integral (lmh y (i - 1) : Int) segs = r.cl - r.hl ∧
      lastHour (lmh y (i - 1) : Int) segs = (lmh y i : Int) := by
  obtain ⟨hp, hd, hD, hnc⟩ := h
  have hH : ((lmh y i : Int) : Rat) - ((lmh y (i - 1) : Int) : Rat) = 24 * (mdays y i : Rat) := by
    rw [lmh_succ y i hi]; push_cast; ring
  have c1 := peakHours_len (1 + lmh y (i - 1)) r.dayc r.dcl hd.1
  have h1 := peakHours_len (1 + lmh y (i - 1)) r.dayh r.dhl hd.2
  have key := (monthRate_runs y r ipf i hD).2
  refine ⟨_, emitMonth_runs y r ipf i hi hD, ?_⟩
  obtain ⟨e1, e2⟩ := monthSegments_integral r ipf (rateOf y r ipf i) _ _ _ _
    ((lmh y i : Int) : Rat) ((lmh y (i - 1) : Int) : Rat) hp c1 h1 (by
      intro hipf hday hc hh
      obtain ⟨n1, n2⟩ := hnc hipf hday hc hh
      rw [peakHours_noclamp n1, peakHours_noclamp n2, hday]; ring)
  refine ⟨?_, e2⟩
  rw [e1, hH]
  linear_combination key

/-! ### the record's windows (C07, C08) -/

/-- The rejection pulse as the record describes it: centred on noon, or ending at noon on a shared day. -/
def coolWindow (fmh : Int) (r : MonthRec) : Rat × Rat :=
  if r.dayc = r.dayh then (noonOf fmh r.dayc - r.dcl, noonOf fmh r.dayc)
  else (noonOf fmh r.dayc - r.dcl / 2, noonOf fmh r.dayc + r.dcl / 2)

/-- The extraction pulse: centred on noon, or starting at noon on a shared day. -/
def heatWindow (fmh : Int) (r : MonthRec) : Rat × Rat :=
  if r.dayc = r.dayh then (noonOf fmh r.dayh, noonOf fmh r.dayh + r.dhl)
  else (noonOf fmh r.dayh - r.dhl / 2, noonOf fmh r.dayh + r.dhl / 2)

/-- The emitted pulses lie strictly inside the month, have positive length and, on different days, do not touch. -/
def windowsClear (y : Int) (r : MonthRec) (i : Int) : Prop :=
  let fmh := 1 + lmh y (i - 1)
  let prev : Rat := (lmh y (i - 1) : Int)
  let lm : Rat := (lmh y i : Int)
  let c := coolWindow fmh r
  let h := heatWindow fmh r
  (0 < r.pcl → prev < c.1 ∧ c.1 < c.2 ∧ c.2 < lm) ∧
  (0 < r.phl → prev < h.1 ∧ h.1 < h.2 ∧ h.2 < lm) ∧
  (0 < r.pcl → 0 < r.phl → (r.dayc < r.dayh → c.2 < h.1) ∧ (r.dayh < r.dayc → h.2 < c.1)) ∧
  -- on a shared day the extraction pulse is placed from `noon - dhl/2`, which must not be clamped
  -- (`h.2 < lm` does not bound `dhl`)
  (r.dayc = r.dayh → 0 < r.phl → r.dhl ≤ 2 * noonOf fmh r.dayh)

instance (y : Int) (r : MonthRec) (i : Int) : Decidable (windowsClear y r i) := by
  unfold windowsClear; infer_instance

/-- In the record's own terms, when the pulses the month emits are centred (no clamp). -/
theorem emitMonth_windows (y : Int) (r : MonthRec) (i : Int) (hi : 1 ≤ i) (hrun : MonthRuns y r true i)
    (hc : 0 < r.pcl → 0 ≤ r.dcl ∧ r.dcl ≤ 2 * noonOf (1 + lmh y (i - 1)) r.dayc)
    (hh : 0 < r.phl → 0 ≤ r.dhl ∧ r.dhl ≤ 2 * noonOf (1 + lmh y (i - 1)) r.dayh) :
    emitMonth y r true i = .ok (monthShape r (rateOf y r true i) (coolWindow (1 + lmh y (i - 1)) r)
      (heatWindow (1 + lmh y (i - 1)) r) ((lmh y i : Int) : Rat)) := by
  rw [emitMonth_runs y r true i hi hrun, monthSegments_eq]
  refine congrArg _ (monthShape_congr (fun p => ?_) (fun q => ?_))
  · obtain ⟨e1, e2⟩ := peakHours_centered (hc p)
    rw [e1, e2]
    unfold coolWindow
    split
    · exact congrArg₂ Prod.mk (by ring) (by ring)
    · rw [sub_zero, sub_zero]
  · obtain ⟨e1, e2⟩ := peakHours_centered (hh q)
    rw [e1, e2]
    unfold heatWindow
    split
    · exact congrArg₂ Prod.mk (by ring) (by ring)
    · rw [add_zero, add_zero]

theorem centred_window_bounds {p n d : Rat} (hp : 0 ≤ p) (h1 : p < n - d / 2) (h2 : n - d / 2 < n + d / 2) :
    0 ≤ d ∧ d ≤ 2 * n := by
  constructor <;> linarith

theorem windowsClear_centred (y : Int) (r : MonthRec) (i : Int) (hw : windowsClear y r i) :
    (0 < r.pcl → 0 ≤ r.dcl ∧ r.dcl ≤ 2 * noonOf (1 + lmh y (i - 1)) r.dayc) ∧
    (0 < r.phl → 0 ≤ r.dhl ∧ r.dhl ≤ 2 * noonOf (1 + lmh y (i - 1)) r.dayh) := by
  have hprev : (0 : Rat) ≤ ((lmh y (i - 1) : Int) : Rat) := by exact_mod_cast lmh_nonneg y (i - 1)
  obtain ⟨wc, wh, _, wn⟩ := hw
  by_cases d : r.dayc = r.dayh
  · simp only [coolWindow, heatWindow, d, if_true] at wc wh
    rw [d]
    exact ⟨fun c => by obtain ⟨c1, c2, _⟩ := wc c; constructor <;> linarith,
      fun h => by obtain ⟨_, h2, _⟩ := wh h; exact ⟨by linarith, wn d h⟩⟩
  · simp only [coolWindow, heatWindow, d, if_false] at wc wh
    exact ⟨fun c => centred_window_bounds hprev (wc c).1 (wc c).2.1,
      fun h => centred_window_bounds hprev (wh h).1 (wh h).2.1⟩

theorem emitMonth_incr (y : Int) (r : MonthRec) (ipf : Bool) (i : Int) (hi : 1 ≤ i)
    (hrun : MonthRuns y r ipf i) (hw : ipf = true → windowsClear y r i) :
    ∃ segs, emitMonth y r ipf i = .ok segs ∧
      Incr ((lmh y (i - 1) : Int) : Rat) (segs.map Prod.snd) ∧
      lastHour ((lmh y (i - 1) : Int) : Rat) segs = ((lmh y i : Int) : Rat) := by
  have hlm := lmh_lt_succ y i hi
  cases ipf with
  | false => exact ⟨_, emitMonth_runs y r false i hi hrun, by simp [monthSegments, Incr, hlm], by simp [monthSegments, lastHour]⟩
  | true =>
    obtain ⟨hc, hh⟩ := windowsClear_centred y r i (hw rfl)
    obtain ⟨wc, wh, wo, _⟩ := hw rfl
    refine ⟨_, emitMonth_windows y r i hi hrun hc hh, ?_, lastHour_snoc⟩
    by_cases c : 0 < r.pcl <;> by_cases h : 0 < r.phl <;> simp only [monthShape, c, h, if_true, if_false]
    split_ifs with d d'
    · exact ⟨(wc c).1, (wc c).2.1, (wo c h).1 d, (wh h).2.1, (wh h).2.2, trivial⟩
    · exact ⟨(wh h).1, (wh h).2.1, (wo c h).2 d', (wc c).2.1, (wc c).2.2, trivial⟩
    · have e : r.dayc = r.dayh := by omega
      obtain ⟨c1, c2, _⟩ := wc c
      obtain ⟨_, h2, h3⟩ := wh h
      simp only [coolWindow, heatWindow, e, if_true] at c1 c2 h2 h3 ⊢
      exact ⟨c1, c2, h2, h3, trivial⟩
    · exact ⟨(wc c).1, (wc c).2.1, (wc c).2.2, trivial⟩
    · exact ⟨(wh h).1, (wh h).2.1, (wh h).2.2, trivial⟩
    · exact ⟨hlm, trivial⟩

end GHEVerif.Hybrid
