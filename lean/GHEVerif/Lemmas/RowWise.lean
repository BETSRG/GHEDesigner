/- What `Model/RowWise.lean` computes, for C14: the row loops return (`Returns`) with every borehole on a chord of its
   row (`genBoreholeConfig_mem`), an intersection is within the tolerance of its edge (`edgeHit_near`), the sort is
   `List.insertionSort`, the sweep is the sweep on field sizes; then the rectangle lattice and translation. -/
import GHEVerif.Model.RowWise
import GHEVerif.Lemmas.Py
import Mathlib.Tactic.Linarith
import Mathlib.Tactic.Ring
import Mathlib.Tactic.FieldSimp
import Mathlib.Tactic.Positivity
import Mathlib.Tactic.NormNum
import Mathlib.Tactic.LinearCombination
import Mathlib.Algebra.Order.Floor.Ring
import Mathlib.Data.Rat.Floor
import Mathlib.Data.List.Sort
import Mathlib.Data.Prod.Lex

namespace GHEVerif.RowWise
open GHEVerif

/-! ### points of a row -/

@[simp] theorem along_zero (c s : Rat) (p : Pt) : along c s p 0 = p := by
  simp [along]

theorem along_along (c s : Rat) (p : Pt) (a b : Rat) : along c s (along c s p a) b = along c s p (a + b) := by
  simp only [along]; ext <;> simp <;> ring

theorem proj_along (c s : Rat) (h : c * c + s * s = 1) (p : Pt) (t : Rat) :
    proj c s (along c s p t) = proj c s p + t := by
  simp only [proj, along]
  linear_combination t * h

theorem rowDist_along_self (c s : Rat) (h : c * c + s * s = 1) (p : Pt) (t : Rat) :
    rowDist c s p (along c s p t) = |t| := by
  rw [rowDist, ratAbs_eq_abs, proj_along c s h, add_sub_cancel_left]

theorem rowDist_self (c s : Rat) (p : Pt) : rowDist c s p p = 0 := by
  rw [rowDist, sub_self]; rfl

theorem rowDist_comm (c s : Rat) (p q : Pt) : rowDist c s p q = rowDist c s q p := by
  unfold rowDist; rw [ratAbs_eq_abs, ratAbs_eq_abs, abs_sub_comm]

theorem rowDist_nonneg (c s : Rat) (p q : Pt) : 0 ≤ rowDist c s p q := by
  unfold rowDist; rw [ratAbs_eq_abs]; exact abs_nonneg _

theorem along_sqDist (c s : Rat) (h : c * c + s * s = 1) (p : Pt) (a b : Rat) :
    sqDist (along c s p a) (along c s p b) = (a - b) * (a - b) := by
  simp only [sqDist, along]
  linear_combination (a - b) * (a - b) * h

/-- `rowDist` is what `sqrt(dx² + dy²)` is in the code, for two points of one row. -/
theorem rowDist_sq (c s : Rat) (h : c * c + s * s = 1) (p : Pt) (t : Rat) :
    rowDist c s p (along c s p t) * rowDist c s p (along c s p t) = sqDist p (along c s p t) := by
  have := along_sqDist c s h p 0 t
  rw [along_zero] at this
  rw [rowDist_along_self c s h, abs_mul_abs_self, this]
  ring

def OnRow (c s : Rat) (b p : Pt) : Prop := ∃ t, p = along c s b t

theorem onRow_pair (c s : Rat) (h : c * c + s * s = 1) (b p q : Pt) (hp : OnRow c s b p) (hq : OnRow c s b q) :
    q = along c s p (proj c s q - proj c s p) := by
  obtain ⟨tp, rfl⟩ := hp
  obtain ⟨tq, rfl⟩ := hq
  rw [proj_along c s h, proj_along c s h, along_along]
  congr 1; ring

theorem along_inj (c s : Rat) (h : c * c + s * s = 1) (p : Pt) (a b : Rat) (hab : along c s p a = along c s p b) : a = b := by
  have := congrArg (proj c s) hab
  rw [proj_along c s h, proj_along c s h] at this
  linarith

theorem along_succ (c s : Rat) (p : Pt) (step : Rat) (m : Nat) :
    along c s p (((m + 1 : Nat) : Rat) * step) = along c s (along c s p step) ((m : Rat) * step) := by
  rw [along_along]; congr 1; push_cast; ring

theorem mid_along (c s : Rat) (p : Pt) (t : Rat) : mid p (along c s p t) = along c s p (t / 2) := by
  simp only [mid, along]; ext <;> simp <;> ring

theorem mid_comm (p q : Pt) : mid p q = mid q p := by
  simp only [mid]; ext <;> simp <;> ring

theorem mem_pushNew (acc : List Pt) (p a : Pt) (ha : a ∈ pushNew acc p) : a = p ∨ a ∈ acc := by
  unfold pushNew at ha
  split at ha
  · exact Or.inl (List.mem_singleton.mp ha)
  · split_ifs at ha
    · exact Or.inr ha
    · exact List.mem_cons.mp ha

theorem pushNew_of_head_ne (acc : List Pt) (p : Pt) (h : acc.head? ≠ some p) : pushNew acc p = p :: acc := by
  cases acc with
  | nil => rfl
  | cons q qs =>
    simp only [List.head?_cons, ne_eq, Option.some.injEq] at h
    simp only [pushNew, if_neg h]

/-! ### a call returns -/

/-- `x` returns, a value that satisfies `Q` or a Python exception; `.error .other` is what this model returns when the
    fuel of the unbounded `distribute` loop is used up. -/
def Returns {α : Type} (x : Py α) (Q : α → Prop) : Prop := x ≠ .error .other ∧ ∀ r, x = .ok r → Q r

theorem Returns.ok {α : Type} {a : α} {Q : α → Prop} (h : Q a) : Returns (.ok a) Q :=
  ⟨nofun, fun _ hr => Except.ok.inj hr ▸ h⟩

theorem Returns.error {α : Type} {e : PyErr} {Q : α → Prop} (he : e ≠ .other) : Returns (.error e) Q :=
  ⟨fun h => he (Except.error.inj h), nofun⟩

theorem Returns.mono {α : Type} {x : Py α} {Q R : α → Prop} (hx : Returns x Q) (h : ∀ r, Q r → R r) : Returns x R :=
  ⟨hx.1, fun r hr => h r (hx.2 r hr)⟩

/-- Stated for lists of points, as in the model: Lean then uses the model's own matcher and the lemma applies to the
    unfolded loops as they stand. -/
theorem Returns.bind {x : Py (List Pt)} {f : List Pt → Py (List Pt)} {Q R : List Pt → Prop} :
    Returns x Q → (∀ a, Q a → Returns (f a) R) → Returns (match x with | .error e => .error e | .ok a => f a) R := by
  intro hx hf
  cases x with
  | error e => exact .error fun he => hx.1 (he ▸ rfl)
  | ok a => exact hf a (hx.2 a rfl)

theorem Returns.bind' {α β : Type} {x : Py α} {f : α → Py β} {Q : α → Prop} {R : β → Prop} :
    Returns x Q → (∀ a, Q a → Returns (f a) R) → Returns (x >>= f) R := by
  intro hx hf
  cases x with
  | error e => exact .error fun he => hx.1 (he ▸ rfl)
  | ok a => exact hf a (hx.2 a rfl)

/-! ### the `distribute` loop -/

theorem distributeTol_pos : 0 < Gen.RowWise.distributeTol := by
  unfold Gen.RowWise.distributeTol; norm_num

theorem distLoop_fuel_mono (c s tol step : Rat) (x2 : Pt) : ∀ (f : Nat) (cur : Pt) (acc r : List Pt) (f' : Nat),
    f ≤ f' → distLoop c s tol step x2 f cur acc = some r → distLoop c s tol step x2 f' cur acc = some r := by
  intro f
  induction f with
  | zero => intro cur acc r f' _ hr; simp [distLoop] at hr
  | succ f ih =>
    intro cur acc r f' hf hr
    obtain ⟨g, rfl⟩ : ∃ g, f' = g + 1 := ⟨f' - 1, by omega⟩
    unfold distLoop at hr ⊢
    split_ifs at hr ⊢ with hc
    · exact ih _ _ r g (by omega) hr
    · exact hr

theorem distLoop_fuel_succ {c s tol step : Rat} {x2 cur : Pt} {f : Nat} {acc r : List Pt}
    (h : distLoop c s tol step x2 f cur acc = some r) : distLoop c s tol step x2 (f + 1) cur acc = some r :=
  distLoop_fuel_mono c s tol step x2 f cur acc r (f + 1) (Nat.le_succ f) h

/-- Fuel `m + 1` suffices when the end point is `m` steps ahead. -/
theorem distLoop_ahead (c s tol step : Rat) (htol : 0 < tol) : ∀ (m : Nat) (cur : Pt) (acc : List Pt),
    ∃ r, distLoop c s tol step (along c s cur ((m : Rat) * step)) (m + 1) cur acc = some r ∧
      ∀ a ∈ r, a ∈ acc ∨ ∃ j : Nat, j ≤ m ∧ a = along c s cur ((j : Rat) * step)
  | 0, cur, acc => by
    refine ⟨acc, ?_, fun a ha => Or.inl ha⟩
    rw [distLoop, Nat.cast_zero, zero_mul, along_zero, rowDist_self, if_neg (not_le.mpr htol)]
  | m + 1, cur, acc => by
    rw [distLoop]
    split_ifs
    · rw [along_succ]
      obtain ⟨r, hr, hmem⟩ := distLoop_ahead c s tol step htol m (along c s cur step) (pushNew acc cur)
      refine ⟨r, hr, fun a ha => ?_⟩
      rcases hmem a ha with h1 | ⟨j, hj, rfl⟩
      · rcases mem_pushNew _ _ _ h1 with rfl | h2
        · exact Or.inr ⟨0, by omega, by simp⟩
        · exact Or.inl h2
      · exact Or.inr ⟨j + 1, by omega, (along_succ c s cur step j).symm⟩
    · exact ⟨acc, rfl, fun a ha => Or.inl ha⟩

/-- `tol ≤ step`: the loop does not stop before the end point; `acc.head? ≠ some cur`: `pushNew` swallows a point equal
    to the last one added. -/
theorem distLoop_closed (c s tol step : Rat) (h : c * c + s * s = 1) (htol : 0 < tol) (hstep : tol ≤ step) :
    ∀ (m : Nat) (cur : Pt) (acc : List Pt), acc.head? ≠ some cur →
      distLoop c s tol step (along c s cur ((m : Rat) * step)) (m + 1) cur acc
        = some (((List.range m).map (fun i : Nat => along c s cur ((i : Rat) * step))).reverse ++ acc)
  | 0, cur, acc, _ => by
    rw [distLoop, Nat.cast_zero, zero_mul, along_zero, rowDist_self, if_neg (not_le.mpr htol)]
    rfl
  | m + 1, cur, acc, hhead => by
    have hstep0 : 0 < step := lt_of_lt_of_le htol hstep
    have hd : rowDist c s cur (along c s cur (((m + 1 : Nat) : Rat) * step)) ≥ tol := by
      rw [rowDist_along_self c s h, abs_of_nonneg (by positivity)]
      push_cast
      exact hstep.trans (le_mul_of_one_le_left hstep0.le (le_add_of_nonneg_left m.cast_nonneg))
    rw [distLoop, if_pos hd, along_succ, pushNew_of_head_ne acc cur hhead, distLoop_closed c s tol step h htol hstep m]
    · simp only [List.range_succ_eq_map, List.map_cons, List.map_map, List.reverse_cons, List.append_assoc,
        List.singleton_append, Nat.cast_zero, zero_mul, along_zero]
      congr 3
      exact List.map_congr_left fun i _ => (along_succ c s cur step i).symm
    · rw [List.head?_cons, ne_eq, Option.some.injEq]
      intro hh
      have := along_inj c s h cur 0 step (by rw [along_zero]; exact hh)
      linarith

theorem floor_steps (t spacing : Rat) (hs : 0 < spacing) (ht : spacing ≤ t) :
    ∃ n : Nat, (t / spacing).floor = (n : Int) ∧ 1 ≤ n ∧ spacing ≤ t / (n : Rat) ∧ (n : Rat) * (t / (n : Rat)) = t := by
  have h1 : (1 : Int) ≤ ⌊t / spacing⌋ := Int.le_floor.mpr (by rw [Int.cast_one, le_div_iff₀ hs, one_mul]; exact ht)
  obtain ⟨n, hn⟩ := Int.eq_ofNat_of_zero_le (le_trans zero_le_one h1)
  have hn1 : 1 ≤ n := by omega
  have hnq : (0 : Rat) < n := by exact_mod_cast hn1
  refine ⟨n, hn, hn1, ?_, mul_div_cancel₀ _ hnq.ne'⟩
  have hfl : ((n : Int) : Rat) ≤ t / spacing := hn ▸ Int.floor_le (t / spacing)
  rw [Int.cast_natCast, le_div_iff₀ hs] at hfl
  rw [le_div_iff₀ hnq, mul_comm]; exact hfl

theorem floor_toNat_eq (x : Rat) (n : Nat) (h0 : (n : Rat) ≤ x) (h1 : x < (n : Rat) + 1) : x.floor.toNat = n := by
  have : ⌊x⌋ = (n : Int) := Int.floor_eq_iff.mpr ⟨by exact_mod_cast h0, by exact_mod_cast h1⟩
  show ⌊x⌋.toNat = n
  rw [this]; rfl

theorem distribute_eq_distLoop (c s spacing : Rat) (h : c * c + s * s = 1) (hs : 0 < spacing) (x1 : Pt) (t : Rat)
    (acc : List Pt) (n : Nat) (ht : spacing ≤ t) (hn : (t / spacing).floor = (n : Int)) (hn1 : 1 ≤ n) :
    distribute c s spacing x1 (along c s x1 t) acc =
      match distLoop c s Gen.RowWise.distributeTol (t / (n : Rat)) (along c s x1 t) (n + 2) x1 acc with
      | none => .error .other
      | some [] => .error .keyError
      | some (q :: acc') => .ok (if q = along c s x1 t then q :: acc' else along c s x1 t :: q :: acc') := by
  unfold distribute
  simp only [rowDist_along_self c s h, abs_of_nonneg (le_trans hs.le ht), if_neg (not_lt.mpr ht), if_neg hs.ne', hn,
    Int.cast_natCast, Int.toNat_natCast, if_neg (by omega : ¬ (n : Int) = 0)]
  rfl

def Between (t u : Rat) : Prop := (0 ≤ u ∧ u ≤ t) ∨ (t ≤ u ∧ u ≤ 0)

theorem mem_pushNew_mid (c s : Rat) (x1 : Pt) (t : Rat) (acc : List Pt) :
    ∀ a ∈ pushNew acc (mid x1 (along c s x1 t)), a ∈ acc ∨ ∃ u, Between t u ∧ a = along c s x1 u := by
  intro a ha
  rcases mem_pushNew _ _ _ ha with rfl | ha
  · refine Or.inr ⟨t / 2, ?_, mid_along c s x1 t⟩
    rcases le_total 0 t with h0 | h0
    · left; constructor <;> linarith
    · right; constructor <;> linarith
  · exact Or.inl ha

theorem distribute_mem (c s spacing : Rat) (h : c * c + s * s = 1) (hs : 0 < spacing) (x1 : Pt) (t : Rat)
    (ht : 0 ≤ t ∨ |t| < spacing) (acc : List Pt) :
    Returns (distribute c s spacing x1 (along c s x1 t) acc) fun r =>
      ∀ a ∈ r, a ∈ acc ∨ ∃ u, Between t u ∧ a = along c s x1 u := by
  by_cases hc1 : |t| < spacing
  · unfold distribute
    simp only [rowDist_along_self c s h, if_pos hc1]
    exact .ok (mem_pushNew_mid c s x1 t acc)
  · have ht0 : 0 ≤ t := ht.resolve_right hc1
    rw [abs_of_nonneg ht0, not_lt] at hc1
    obtain ⟨n, hn, hn1, hstep, hmul⟩ := floor_steps t spacing hs hc1
    obtain ⟨r0, hr0, hmem⟩ := distLoop_ahead c s Gen.RowWise.distributeTol (t / (n : Rat)) distributeTol_pos n x1 acc
    rw [hmul] at hr0
    replace hr0 := distLoop_fuel_succ hr0
    rw [distribute_eq_distLoop c s spacing h hs x1 t acc n hc1 hn hn1, hr0]
    have hvis : ∀ a ∈ r0, a ∈ acc ∨ ∃ u, Between t u ∧ a = along c s x1 u := by
      intro a ha
      rcases hmem a ha with hin | ⟨j, hj, rfl⟩
      · exact Or.inl hin
      · have hstep0 : 0 ≤ t / (n : Rat) := le_trans hs.le hstep
        refine Or.inr ⟨_, Or.inl ⟨mul_nonneg (Nat.cast_nonneg _) hstep0, ?_⟩, rfl⟩
        calc (j : Rat) * (t / (n : Rat)) ≤ (n : Rat) * (t / (n : Rat)) :=
              mul_le_mul_of_nonneg_right (by exact_mod_cast hj) hstep0
          _ = t := hmul
    cases r0 with
    | nil => exact .error nofun
    | cons q r' =>
      refine .ok fun a ha => ?_
      split_ifs at ha
      · exact hvis a ha
      · rcases List.mem_cons.mp ha with rfl | ha
        · exact Or.inr ⟨t, Or.inl ⟨ht0, le_rfl⟩, rfl⟩
        · exact hvis a ha

theorem processRows_mem (c s space : Rat) (h : c * c + s * s = 1) (hs : 0 < space) (x1 : Pt) (t : Rat)
    (ht : 0 ≤ t ∨ |t| < space) (acc : List Pt) :
    Returns (processRows c s space x1 (along c s x1 t) acc) fun r =>
      ∀ a ∈ r, a ∈ acc ∨ ∃ u, Between t u ∧ a = along c s x1 u := by
  unfold processRows
  rw [if_neg hs.ne', mid_comm]
  split_ifs
  · exact .ok (mem_pushNew_mid c s x1 t acc)
  · exact distribute_mem c s space h hs x1 t ht acc

theorem distribute_closed (c s spacing : Rat) (h : c * c + s * s = 1) (hs : 0 < spacing)
    (htol : Gen.RowWise.distributeTol ≤ spacing) (x1 : Pt) (dx : Rat) (hdx : spacing ≤ dx)
    (acc : List Pt) (hacc : acc.head? ≠ some x1) :
    distribute c s spacing x1 (along c s x1 dx) acc
      = .ok (((List.range ((dx / spacing).floor.toNat + 1)).map
          (fun i : Nat => along c s x1 ((i : Rat) * (dx / ((dx / spacing).floor : Rat))))).reverse ++ acc) := by
  obtain ⟨n, hn, hn1, hstep, hmul⟩ := floor_steps dx spacing hs hdx
  rw [distribute_eq_distLoop c s spacing h hs x1 dx acc n hdx hn hn1, hn, Int.toNat_natCast, Int.cast_natCast]
  have key := distLoop_closed c s Gen.RowWise.distributeTol (dx / (n : Rat)) h distributeTol_pos (le_trans htol hstep)
    n x1 acc hacc
  rw [hmul] at key
  rw [distLoop_fuel_succ key]
  obtain ⟨m, rfl⟩ : ∃ m, n = m + 1 := ⟨n - 1, by omega⟩
  -- the head of the accumulated list is the point before the end point
  have hneq : ¬ along c s x1 ((m : Rat) * (dx / ((m + 1 : Nat) : Rat))) = along c s x1 dx := by
    intro hh
    have hpos : 0 < dx / ((m + 1 : Nat) : Rat) := lt_of_lt_of_le hs hstep
    have := mul_right_cancel₀ hpos.ne' ((along_inj c s h x1 _ _ hh).trans hmul.symm)
    exact absurd (Nat.cast_injective this) (Nat.succ_ne_self m).symm
  rw [List.range_succ (n := m + 1), List.range_succ (n := m)]
  simp only [List.map_append, List.map_cons, List.map_nil, List.reverse_append, List.reverse_cons,
    List.reverse_nil, List.nil_append, List.cons_append, if_neg hneq, hmul]

theorem sq_le_sq_steps (sp st : Rat) (i j : Nat) (hsp : 0 ≤ sp) (hst : sp ≤ st) (h : i < j) :
    sp * sp ≤ ((i : Rat) * st - (j : Rat) * st) * ((i : Rat) * st - (j : Rat) * st) := by
  have h' : (1 : Rat) ≤ (j : Rat) - i := by
    have : (i : Rat) + 1 ≤ j := by exact_mod_cast h
    linarith
  have e : (i : Rat) * st - j * st = -(((j : Rat) - i) * st) := by ring
  rw [e, neg_mul_neg]
  exact mul_self_le_mul_self hsp (le_trans hst (le_mul_of_one_le_left (le_trans hsp hst) h'))

/-! ### lines as cross products -/

/-- cross product zero: no division, vertical lines included -/
def OnLine (l : Seg) (r : Pt) : Prop := (l.x2 - l.x1) * (r.2 - l.y1) = (l.y2 - l.y1) * (r.1 - l.x1)

theorem slope_eq_none {x1 y1 x2 y2 : Rat} (h : slope x1 y1 x2 y2 = none) : x2 - x1 = 0 := by
  unfold slope at h
  by_contra hne
  rw [if_neg hne] at h; cases h

theorem slope_eq_some {x1 y1 x2 y2 a c : Rat} (h : slope x1 y1 x2 y2 = some (a, c)) :
    x2 - x1 ≠ 0 ∧ a * (x2 - x1) = y2 - y1 ∧ c = y1 - x1 * a := by
  unfold slope at h
  by_cases h0 : x2 - x1 = 0
  · rw [if_pos h0] at h; cases h
  · rw [if_neg h0] at h
    obtain ⟨rfl, rfl⟩ := h
    exact ⟨h0, div_mul_cancel₀ _ h0, rfl⟩

theorem onLine_of_slope {l : Seg} {a c : Rat} (h : slope l.x1 l.y1 l.x2 l.y2 = some (a, c)) (x : Rat) :
    OnLine l (x, a * x + c) := by
  obtain ⟨_, ha, rfl⟩ := slope_eq_some h
  unfold OnLine
  linear_combination (x - l.x1) * ha

theorem onLine_of_vertical {l : Seg} (h : slope l.x1 l.y1 l.x2 l.y2 = none) (y : Rat) : OnLine l (l.x1, y) := by
  unfold OnLine
  rw [slope_eq_none h]; ring

theorem vectorIntersect_onLine (l1 l2 : Seg) (tol : Rat) (htol : 0 ≤ tol) (r : Pt)
    (hr : vectorIntersect l1 l2 tol = [r]) : OnLine l1 r ∧ OnLine l2 r := by
  unfold vectorIntersect at hr
  cases h1 : slope l1.x1 l1.y1 l1.x2 l1.y2 with
  | none =>
    cases h2 : slope l2.x1 l2.y1 l2.x2 l2.y2 with
    | none => rw [h1, h2] at hr; simp only at hr; split_ifs at hr; simp at hr
    | some ac =>
      rw [h1, h2] at hr
      simp only [List.cons.injEq, and_true] at hr
      subst hr
      exact ⟨onLine_of_vertical h1 _, onLine_of_slope h2 _⟩
  | some ac1 =>
    cases h2 : slope l2.x1 l2.y1 l2.x2 l2.y2 with
    | none =>
      rw [h1, h2] at hr
      simp only [List.cons.injEq, and_true] at hr
      subst hr
      exact ⟨onLine_of_slope h1 _, onLine_of_vertical h2 _⟩
    | some ac2 =>
      obtain ⟨a1, c1⟩ := ac1
      obtain ⟨a2, c2⟩ := ac2
      rw [h1, h2] at hr
      simp only at hr
      split_ifs at hr with hpar
      · simp only [List.cons.injEq, and_true] at hr
        have hne : a1 - a2 ≠ 0 := by
          intro h0; apply hpar; rw [h0]; simpa [ratAbs_eq_abs] using htol
        have hX : (a1 - a2) * ((c2 - c1) / (a1 - a2)) = c2 - c1 := mul_div_cancel₀ _ hne
        rw [mul_div_assoc] at hr
        subst hr
        refine ⟨onLine_of_slope h1 _, ?_⟩
        have e : a1 * ((c2 - c1) / (a1 - a2)) + c1 = a2 * ((c2 - c1) / (a1 - a2)) + c2 := by linear_combination hX
        rw [e]
        exact onLine_of_slope h2 _

theorem mem_edgeHit {row : Seg} {tol : Rat} {e : Pt × Pt} {r : Pt} (hr : r ∈ edgeHit row tol e) :
    vectorIntersect ⟨e.1.1, e.1.2, e.2.1, e.2.2⟩ row tol = [r] ∧ inBox tol e.1 e.2 r = true := by
  unfold edgeHit at hr
  split at hr
  · rename_i r' heq
    split_ifs at hr with hb
    · rw [List.mem_singleton] at hr; subst hr; exact ⟨heq, hb⟩
    · simp at hr
  · simp at hr

theorem mem_edges (poly : List Pt) (e : Pt × Pt) (he : e ∈ edges poly) : e.1 ∈ poly ∧ e.2 ∈ poly := by
  unfold edges at he
  obtain ⟨h1, h2⟩ := List.of_mem_zip he
  refine ⟨h1, ?_⟩
  rcases List.mem_append.mp h2 with h | h
  · exact List.mem_of_mem_drop h
  · exact List.mem_of_mem_take h

def RowDir (c s : Rat) (row : Seg) : Prop :=
  ∃ l : Rat, l ≠ 0 ∧ row.x2 - row.x1 = l * c ∧ row.y2 - row.y1 = l * s

/-- The parameter on the row is the projection: no case `c = 0`. -/
theorem onRow_of_onLine (c s : Rat) (h : c * c + s * s = 1) (row : Seg) (hdir : RowDir c s row) (r : Pt)
    (hr : OnLine row r) : OnRow c s (row.x1, row.y1) r := by
  obtain ⟨l, hl0, hx, hy⟩ := hdir
  unfold OnLine at hr
  rw [hx, hy, mul_assoc, mul_assoc] at hr
  have hcs : c * (r.2 - row.y1) = s * (r.1 - row.x1) := mul_left_cancel₀ hl0 hr
  refine ⟨c * (r.1 - row.x1) + s * (r.2 - row.y1), ?_⟩
  ext
  · show r.1 = row.x1 + _ * c
    linear_combination (-(r.1 - row.x1)) * h - s * hcs
  · show r.2 = row.y1 + _ * s
    linear_combination (-(r.2 - row.y1)) * h + c * hcs

def RowConvex (c s : Rat) (P : Pt → Prop) : Prop :=
  ∀ p t u, P p → P (along c s p t) → Between t u → P (along c s p u)

theorem halfplane_rowConvex (c s a b β : Rat) : RowConvex c s (fun p => a * p.1 + b * p.2 ≤ β) := by
  intro p t u hp ht hu
  simp only [along] at ht ⊢
  -- affine in `u` with slope `k`: below its value at `t` or at `0`, by the sign of `k`
  rcases le_total 0 (a * c + b * s) with hk | hk
  · rcases hu with ⟨_, h1⟩ | ⟨_, h0⟩
    · linarith [mul_le_mul_of_nonneg_right h1 hk]
    · linarith [mul_nonpos_of_nonpos_of_nonneg h0 hk]
  · rcases hu with ⟨h0, _⟩ | ⟨h1, _⟩
    · linarith [mul_nonpos_of_nonneg_of_nonpos h0 hk]
    · linarith [mul_le_mul_of_nonpos_right h1 hk]

/-! ### a hit is within the tolerance of its edge -/

theorem inBox_iff (tol : Rat) (c1 c2 r : Pt) : inBox tol c1 c2 r = true ↔
    (r.1 - max c2.1 c1.1 ≤ tol ∧ -tol ≤ r.1 - min c2.1 c1.1 ∧ r.2 - max c2.2 c1.2 ≤ tol ∧ -tol ≤ r.2 - min c2.2 c1.2) := by
  unfold inBox
  simp only [ratMax_eq_max, ratMin_eq_min, Bool.not_eq_true', Bool.or_eq_false_iff, decide_eq_false_iff_not, not_lt,
    gt_iff_lt, neg_mul, one_mul, and_assoc]

theorem box_excess (x1 x2 r tol u : Rat) (hr : r - x2 = (u - 1) * (x2 - x1)) (hu : 1 ≤ u)
    (hhi : r - max x2 x1 ≤ tol) (hlo : -tol ≤ r - min x2 x1) : |r - x2| ≤ tol := by
  rcases le_total x1 x2 with hx | hx
  · rw [max_eq_left hx] at hhi
    have : 0 ≤ r - x2 := by rw [hr]; exact mul_nonneg (sub_nonneg.mpr hu) (sub_nonneg.mpr hx)
    rw [abs_of_nonneg this]; exact hhi
  · rw [min_eq_left hx] at hlo
    have : r - x2 ≤ 0 := by rw [hr]; exact mul_nonpos_of_nonneg_of_nonpos (sub_nonneg.mpr hu) (sub_nonpos.mpr hx)
    rw [abs_of_nonpos this]; exact neg_le.mp hlo

theorem mul_le_abs_tol (a d tol : Rat) (hd : |d| ≤ tol) : a * d ≤ tol * |a| := by
  calc a * d ≤ |a * d| := le_abs_self _
    _ = |a| * |d| := abs_mul a d
    _ ≤ |a| * tol := mul_le_mul_of_nonneg_left hd (abs_nonneg a)
    _ = tol * |a| := mul_comm _ _

/-- One coordinate of the box test: within `tol` of the point whose parameter is `u` clamped to `[0, 1]`. -/
theorem clamp_near (x1 x2 x u tol : Rat) (hx : x = x1 + u * (x2 - x1))
    (hhi : x - max x2 x1 ≤ tol) (hlo : -tol ≤ x - min x2 x1) (htol : 0 ≤ tol) :
    |x - (x1 + max 0 (min u 1) * (x2 - x1))| ≤ tol := by
  rcases le_total u 0 with h0 | h0
  · rw [max_eq_left (le_trans (min_le_left _ _) h0), zero_mul, add_zero]
    exact box_excess x2 x1 x tol (1 - u) (by rw [hx]; ring) (by linarith) (max_comm x2 x1 ▸ hhi) (min_comm x2 x1 ▸ hlo)
  · rcases le_total u 1 with h1 | h1
    · rw [min_eq_left h1, max_eq_right h0, ← hx, sub_self, abs_zero]; exact htol
    · rw [min_eq_right h1, max_eq_right zero_le_one, one_mul, add_sub_cancel]
      exact box_excess x1 x2 x tol u (by rw [hx]; ring) h1 hhi hlo

theorem param_of_cross (x1 x2 y1 y2 x y : Rat) (hd : x2 - x1 ≠ 0)
    (h : (x2 - x1) * (y - y1) = (y2 - y1) * (x - x1)) :
    x = x1 + (x - x1) / (x2 - x1) * (x2 - x1) ∧ y = y1 + (x - x1) / (x2 - x1) * (y2 - y1) := by
  have e : (x - x1) / (x2 - x1) * (x2 - x1) = x - x1 := div_mul_cancel₀ _ hd
  refine ⟨by rw [e]; ring, ?_⟩
  have : (x2 - x1) * (y - y1) = (x2 - x1) * ((x - x1) / (x2 - x1) * (y2 - y1)) := by
    rw [h]; linear_combination (-(y2 - y1)) * e
  linear_combination mul_left_cancel₀ hd this

theorem edgeHit_near (tol : Rat) (htol : 0 ≤ tol) (row : Seg) (v1 v2 r : Pt) (hr : r ∈ edgeHit row tol (v1, v2)) :
    ∃ w, 0 ≤ w ∧ w ≤ 1 ∧ |r.1 - (v1.1 + w * (v2.1 - v1.1))| ≤ tol ∧ |r.2 - (v1.2 + w * (v2.2 - v1.2))| ≤ tol := by
  obtain ⟨hv, hb⟩ := mem_edgeHit hr
  obtain ⟨bx1, bx2, by1, by2⟩ := (inBox_iff tol v1 v2 r).mp hb
  have hline : (v2.1 - v1.1) * (r.2 - v1.2) = (v2.2 - v1.2) * (r.1 - v1.1) :=
    (vectorIntersect_onLine _ row tol htol r hv).1
  have clamp : ∀ u, r.1 = v1.1 + u * (v2.1 - v1.1) → r.2 = v1.2 + u * (v2.2 - v1.2) →
      ∃ w, 0 ≤ w ∧ w ≤ 1 ∧ |r.1 - (v1.1 + w * (v2.1 - v1.1))| ≤ tol ∧ |r.2 - (v1.2 + w * (v2.2 - v1.2))| ≤ tol :=
    fun u hx hy => ⟨max 0 (min u 1), le_max_left _ _, max_le zero_le_one (min_le_right _ _),
      clamp_near _ _ _ u tol hx bx1 bx2 htol, clamp_near _ _ _ u tol hy by1 by2 htol⟩
  by_cases hdx : v2.1 - v1.1 = 0
  · by_cases hdy : v2.2 - v1.2 = 0
    · -- an edge of length zero: the box is the tolerance box of the vertex
      refine ⟨0, le_rfl, zero_le_one, ?_, ?_⟩
      · simp only [sub_eq_zero.mp hdx, max_self, min_self] at bx1 bx2
        rw [zero_mul, add_zero, abs_le]; exact ⟨bx2, bx1⟩
      · simp only [sub_eq_zero.mp hdy, max_self, min_self] at by1 by2
        rw [zero_mul, add_zero, abs_le]; exact ⟨by2, by1⟩
    · obtain ⟨hy, hx⟩ := param_of_cross v1.2 v2.2 v1.1 v2.1 r.2 r.1 hdy hline.symm
      exact clamp _ hx hy
  · obtain ⟨hx, hy⟩ := param_of_cross v1.1 v2.1 v1.2 v2.2 r.1 r.2 hdx hline
    exact clamp _ hx hy

theorem edgeHit_halfplane (tol : Rat) (htol : 0 ≤ tol) (row : Seg) (v1 v2 r : Pt) (a b β : Rat)
    (h1 : a * v1.1 + b * v1.2 ≤ β) (h2 : a * v2.1 + b * v2.2 ≤ β) (hr : r ∈ edgeHit row tol (v1, v2)) :
    a * r.1 + b * r.2 ≤ β + tol * (|a| + |b|) := by
  obtain ⟨w, hw0, hw1, ex, ey⟩ := edgeHit_near tol htol row v1 v2 r hr
  -- convexity along the edge vector `v2 − v1` (no unit vector needed), parameters `0` and `1`
  have hq : a * (v1.1 + w * (v2.1 - v1.1)) + b * (v1.2 + w * (v2.2 - v1.2)) ≤ β :=
    halfplane_rowConvex (v2.1 - v1.1) (v2.2 - v1.2) a b β v1 1 w h1
      (by simpa [along] using h2) (Or.inl ⟨hw0, hw1⟩)
  linarith [mul_le_abs_tol a _ tol ex, mul_le_abs_tol b _ tol ey]

theorem rawIntersections_halfplane (tol : Rat) (htol : 0 ≤ tol) (poly : List Pt) (row : Seg) (a b β : Rat)
    (hpoly : ∀ v ∈ poly, a * v.1 + b * v.2 ≤ β) (r : Pt) (hr : r ∈ rawIntersections poly row tol) :
    a * r.1 + b * r.2 ≤ β + tol * (|a| + |b|) := by
  unfold rawIntersections at hr
  obtain ⟨e, he, hre⟩ := List.mem_flatMap.mp hr
  obtain ⟨m1, m2⟩ := mem_edges poly e he
  exact edgeHit_halfplane tol htol row e.1 e.2 r a b β (hpoly _ m1) (hpoly _ m2) hre

/-! ### the sort is `List.insertionSort` -/

theorem sortIntersections_eq (c s : Rat) (l : List Pt) :
    sortIntersections c s l = l.insertionSort (fun p q => keyLe c s p q) := by
  have ins : ∀ (p : Pt) (l : List Pt), insertKey c s p l = l.orderedInsert (fun p q => keyLe c s p q) p := by
    intro p l
    induction l with
    | nil => rfl
    | cons q qs ih => simp only [insertKey, List.orderedInsert, ih]
  induction l with
  | nil => rfl
  | cons p ps ih => rw [sortIntersections, List.foldr_cons, ← sortIntersections, ih, ins]; rfl

theorem keyLe_iff (c s : Rat) (p q : Pt) :
    keyLe c s p q = true ↔ toLex (proj c s p, toLex p) ≤ toLex (proj c s q, toLex q) := by
  simp only [keyLe, Prod.Lex.le_iff, Bool.or_eq_true, Bool.and_eq_true, decide_eq_true_eq]
  -- the rest is `≤` of `Lex (Rat × Rat)` on the point, unfolded
  rfl

theorem mem_sortIntersections (c s : Rat) (x : Pt) (l : List Pt) : x ∈ sortIntersections c s l ↔ x ∈ l := by
  rw [sortIntersections_eq]
  exact (List.perm_insertionSort _ l).mem_iff

def ProjSorted (c s : Rat) (l : List Pt) : Prop := l.Pairwise (fun p q => proj c s p ≤ proj c s q)

theorem sortIntersections_sorted (c s : Rat) (l : List Pt) : ProjSorted c s (sortIntersections c s l) := by
  have : Std.Total (fun p q : Pt => keyLe c s p q = true) := ⟨fun p q => by simp only [keyLe_iff]; exact le_total _ _⟩
  have : IsTrans Pt (fun p q => keyLe c s p q = true) := ⟨fun p q r => by simp only [keyLe_iff]; exact le_trans⟩
  rw [sortIntersections_eq]
  refine (List.pairwise_insertionSort _ l).imp fun {p q} h => ?_
  rcases Prod.Lex.le_iff.mp ((keyLe_iff c s p q).mp h) with h | h
  · exact h.le
  · exact h.1.le

/-! ### the intersections of a row, ordered along it -/

theorem dedupe_sublist (tol : Rat) (l : List Pt) : (dedupe tol l).Sublist l := by
  unfold dedupe
  split
  · split_ifs
    · exact List.Sublist.cons_cons _ List.filter_sublist
    · exact List.Sublist.refl _
  · exact List.Sublist.refl _

structure RowList (c s : Rat) (b : Pt) (f : List Pt) : Prop where
  on : ∀ p ∈ f, OnRow c s b p
  sorted : ProjSorted c s f

theorem rowList_of_row (c s tol : Rat) (h : c * c + s * s = 1) (htol : 0 ≤ tol) (poly : List Pt) (row : Seg)
    (hdir : RowDir c s row) : RowList c s (row.x1, row.y1) (dedupe tol (lineIntersect poly row c s tol)) := by
  have hsub := dedupe_sublist tol (lineIntersect poly row c s tol)
  constructor
  · intro p hp
    obtain ⟨e, _, he⟩ := List.mem_flatMap.mp ((mem_sortIntersections c s p _).mp (hsub.subset hp))
    exact onRow_of_onLine c s h row hdir p (vectorIntersect_onLine _ row tol htol p (mem_edgeHit he).1).2
  · exact List.Pairwise.sublist hsub (sortIntersections_sorted c s _)

theorem RowList.tail {c s : Rat} {b p : Pt} {f : List Pt} (hf : RowList c s b (p :: f)) : RowList c s b f :=
  ⟨fun q hq => hf.on q (List.mem_cons_of_mem _ hq), (List.pairwise_cons.mp hf.sorted).2⟩

theorem RowList.ahead {c s : Rat} {b : Pt} (h : c * c + s * s = 1) {p q : Pt} {f : List Pt}
    (hf : RowList c s b (p :: f)) (hq : q ∈ f) :
    q = along c s p (proj c s q - proj c s p) ∧ 0 ≤ proj c s q - proj c s p := by
  refine ⟨onRow_pair c s h b p q (hf.on p (by simp)) (hf.on q (List.mem_cons_of_mem _ hq)), ?_⟩
  have := (List.pairwise_cons.mp hf.sorted).1 q hq
  linarith

/-- The pair handed to `processRows` by `evenLoop` (`left_offset`, `right_offset` of `gen_borehole_config`); a `let` in
    the model, named here through `evenLoop_cons`. -/
def evenSeg (c s space : Rat) (prev : Option Pt) (p q : Pt) : Pt × Pt :=
  match prev with
  | some r =>
    if rowDist c s p r < space then (along c s p (rowDist c s p r), q)
    else if rowDist c s p q < space then (p, along c s q (-rowDist c s p q)) else (p, q)
  | none => if rowDist c s p q < space then (p, along c s q (-rowDist c s p q)) else (p, q)

theorem evenLoop_cons (c s space : Rat) (prev : Option Pt) (p q : Pt) (rest acc : List Pt) :
    evenLoop c s space prev (p :: q :: rest) acc =
      match processRows c s space (evenSeg c s space prev p q).1 (evenSeg c s space prev p q).2 acc with
      | .error e => .error e
      | .ok acc' => evenLoop c s space (some q) rest acc' := by
  cases prev
  · rfl
  · rfl

/-- The offset rule keeps the end point ahead of the start point, or less than one spacing behind it. -/
theorem evenSeg_ahead (c s space : Rat) (h : c * c + s * s = 1) (prev : Option Pt) (p : Pt) (d : Rat) (hd : 0 ≤ d) :
    ∃ t, (evenSeg c s space prev p (along c s p d)).2 = along c s (evenSeg c s space prev p (along c s p d)).1 t ∧
      (0 ≤ t ∨ |t| < space) := by
  have back : along c s (along c s p d) (-d) = along c s p 0 := by rw [along_along, add_neg_cancel]
  unfold evenSeg
  rw [rowDist_along_self c s h, abs_of_nonneg hd]
  rcases prev with _ | r
  · simp only
    split_ifs
    · exact ⟨0, back, Or.inl le_rfl⟩
    · exact ⟨d, rfl, Or.inl hd⟩
  · simp only
    split_ifs
    · -- the start point is moved ahead by the gap `g < space` to the previous chord: the end point is then `d − g`
      -- ahead, or less than `g` behind
      refine ⟨d - rowDist c s p r, by rw [along_along, add_sub_cancel], ?_⟩
      rcases le_total 0 (d - rowDist c s p r) with h0 | h0
      · exact Or.inl h0
      · rw [abs_of_nonpos h0]; right; linarith
    · exact ⟨0, back, Or.inl le_rfl⟩
    · exact ⟨d, rfl, Or.inl hd⟩

/-- Nothing is said about where the even loop puts boreholes (the offset rule may move the start point past the end of
    its chord): hence `EvenAtMostTwo` in `rowStep_mem`. -/
theorem evenLoop_returns (c s space : Rat) (h : c * c + s * s = 1) (hs : 0 < space) (b : Pt) :
    ∀ (f : List Pt) (prev : Option Pt) (acc : List Pt), RowList c s b f →
      Returns (evenLoop c s space prev f acc) fun _ => True
  | [], _, _, _ | [_], _, _, _ => by simp only [evenLoop]; exact .ok trivial
  | p :: q :: rest, prev, acc, hf => by
    obtain ⟨hq, hq0⟩ := hf.ahead h List.mem_cons_self
    obtain ⟨t, ht, hcond⟩ := evenSeg_ahead c s space h prev p _ hq0
    rw [← hq] at ht
    have hp := processRows_mem c s space h hs (evenSeg c s space prev p q).1 t hcond acc
    rw [← ht] at hp
    rw [evenLoop_cons]
    exact hp.bind fun acc' _ => evenLoop_returns c s space h hs b rest (some q) acc' hf.tail.tail

/-! ### `remove_duplicates` -/

theorem removeDupAux_subset (tolSq : Rat) (seen l : List Pt) : ∀ a ∈ removeDupAux tolSq seen l, a ∈ l := by
  induction l generalizing seen with
  | nil => simp [removeDupAux]
  | cons p ps ih =>
    intro a ha
    unfold removeDupAux at ha
    split_ifs at ha
    · exact List.mem_cons_of_mem _ (ih _ a ha)
    · rcases List.mem_cons.mp ha with rfl | ha
      · simp
      · exact List.mem_cons_of_mem _ (ih _ a ha)

theorem removeDupAux_pairwise (tolSq : Rat) : ∀ (l seen : List Pt),
    (removeDupAux tolSq seen l).Pairwise (fun p q => tolSq ≤ sqDist p q) ∧
      ∀ q ∈ removeDupAux tolSq seen l, ∀ p ∈ seen, tolSq ≤ sqDist p q
  | [], _ => by simp [removeDupAux]
  | x :: xs, seen => by
    obtain ⟨ih1, ih2⟩ := removeDupAux_pairwise tolSq xs (x :: seen)
    unfold removeDupAux
    split_ifs with hany
    · exact ⟨ih1, fun q hq p hp => ih2 q hq p (List.mem_cons_of_mem _ hp)⟩
    · simp only [List.any_eq_true, decide_eq_true_eq, not_exists, not_and, not_lt] at hany
      refine ⟨List.pairwise_cons.mpr ⟨fun q hq => ih2 q hq x List.mem_cons_self, ih1⟩, fun q hq p hp => ?_⟩
      rcases List.mem_cons.mp hq with rfl | hq
      · exact hany p hp
      · exact ih2 q hq p (List.mem_cons_of_mem _ hp)

theorem removeDuplicates_subset (space : Rat) (l : List Pt) : ∀ a ∈ removeDuplicates space l, a ∈ l :=
  removeDupAux_subset _ [] l

theorem removeDupAux_eq_self (tolSq : Rat) : ∀ (l seen : List Pt),
    (∀ q ∈ seen, ∀ p ∈ l, tolSq ≤ sqDist q p) → l.Pairwise (fun q p => tolSq ≤ sqDist q p) →
    removeDupAux tolSq seen l = l
  | [], _, _, _ => by simp [removeDupAux]
  | p :: ps, seen, hs, hp => by
    rw [List.pairwise_cons] at hp
    have h1 : (seen.any (fun q => decide (sqDist q p < tolSq))) = false := by
      rw [List.any_eq_false]; intro q hq
      simpa using hs q hq p List.mem_cons_self
    rw [removeDupAux, h1]
    simp only [Bool.false_eq_true, if_false]
    congr 1
    apply removeDupAux_eq_self tolSq ps (p :: seen) _ hp.2
    intro q hq r hr
    rcases List.mem_cons.mp hq with rfl | hq
    · exact hp.1 r hr
    · exact hs q hq r (List.mem_cons_of_mem _ hr)

/-! ### the row plan -/

def ExtInv (c s : Rat) (pre : List Pt) (lo hi : Option (Rat × Pt)) : Prop :=
  (pre = [] ∧ lo = none ∧ hi = none) ∨
  ∃ l lv hh hv, lo = some (l, lv) ∧ hi = some (hh, hv) ∧ lv ∈ pre ∧ hv ∈ pre ∧ l = ypOf c s lv ∧ hh = ypOf c s hv ∧
    ∀ v ∈ pre, l ≤ ypOf c s v ∧ ypOf c s v ≤ hh

theorem extremes_inv (c s : Rat) (rest : List Pt) : ∀ (pre : List Pt) (lo hi : Option (Rat × Pt)),
    ExtInv c s pre lo hi → ExtInv c s (pre ++ rest) (extremes c s rest lo hi).1 (extremes c s rest lo hi).2 := by
  induction rest with
  | nil => intro pre lo hi hinv; simpa [extremes] using hinv
  | cons v vs ih =>
    intro pre lo hi hinv
    unfold extremes
    have e : pre ++ v :: vs = (pre ++ [v]) ++ vs := by simp
    rw [e]
    apply ih
    -- in order: `lo` and its vertex, `hi` and its vertex, their equations, memberships, values, the bounds
    rcases hinv with ⟨rfl, rfl, rfl⟩ | ⟨l, lv, hh, hv, rfl, rfl, hlv, hhv, hl, hhh, hall⟩
    · right
      exact ⟨_, v, _, v, rfl, rfl, by simp, by simp, rfl, rfl, by simp⟩
    · right
      simp only
      by_cases h1 : ypOf c s v < l
      · by_cases h2 : ypOf c s v > hh
        · exfalso
          have := hall lv hlv
          linarith
        · rw [if_pos h1, if_neg h2]
          exact ⟨_, v, _, hv, rfl, rfl, List.mem_concat_self, List.mem_append_left _ hhv, rfl, hhh, List.forall_mem_append.mpr
            ⟨fun w hw => ⟨h1.le.trans (hall w hw).1, (hall w hw).2⟩, List.forall_mem_singleton.mpr ⟨le_rfl, not_lt.mp h2⟩⟩⟩
      · by_cases h2 : ypOf c s v > hh
        · rw [if_neg h1, if_pos h2]
          exact ⟨_, lv, _, v, rfl, rfl, List.mem_append_left _ hlv, List.mem_concat_self, hl, rfl, List.forall_mem_append.mpr
            ⟨fun w hw => ⟨(hall w hw).1, (hall w hw).2.trans h2.le⟩, List.forall_mem_singleton.mpr ⟨not_lt.mp h1, le_rfl⟩⟩⟩
        · rw [if_neg h1, if_neg h2]
          exact ⟨_, lv, _, hv, rfl, rfl, List.mem_append_left _ hlv, List.mem_append_left _ hhv, hl, hhh, List.forall_mem_append.mpr
            ⟨hall, List.forall_mem_singleton.mpr ⟨not_lt.mp h1, not_lt.mp h2⟩⟩⟩

theorem extremes_spec (c s : Rat) (poly : List Pt) (lo hi : Rat) (lowest hv : Pt)
    (h : extremes c s poly none none = (some (lo, lowest), some (hi, hv))) :
    lowest ∈ poly ∧ hv ∈ poly ∧ ypOf c s lowest = lo ∧ ypOf c s hv = hi ∧
      ∀ v ∈ poly, lo ≤ ypOf c s v ∧ ypOf c s v ≤ hi := by
  have hinv := extremes_inv c s poly [] none none (Or.inl ⟨rfl, rfl, rfl⟩)
  rw [h, List.nil_append] at hinv
  rcases hinv with ⟨_, hcon, _⟩ | ⟨l, lv, hh, hv', e1, e2, hlv, hhv, hl, hhh, hall⟩
  · cases hcon
  · cases e1
    cases e2
    exact ⟨hlv, hhv, hl.symm, hhh.symm, hall⟩

theorem rowPlan_eq_ok (poly : List Pt) (c s ySpace : Rat) (numRows : Int) (lowest : Pt) (rs0 rs1 : Rat)
    (hp : rowPlan poly c s ySpace = .ok (numRows, lowest, rs0, rs1)) :
    ∃ lo hi hv, extremes c s poly none none = (some (lo, lowest), some (hi, hv)) ∧ ySpace ≠ 0 ∧
      numRows = ((hi - lo) / ySpace).floor ∧ numRows ≠ 0 ∧
      rs0 = -1 * ((hi - lo) / (numRows : Rat)) * s ∧ rs1 = (hi - lo) / (numRows : Rat) * c := by
  unfold rowPlan at hp
  split at hp
  · rename_i lo lowest' hi hv heq
    split_ifs at hp with h1
    simp only at hp
    split_ifs at hp with h2
    obtain ⟨rfl, rfl, rfl, rfl⟩ := hp
    exact ⟨lo, hi, hv, heq, h1, rfl, h2, rfl, rfl⟩
  · cases hp

theorem rowPlan_err (poly : List Pt) (c s ySpace : Rat) (e : PyErr) (hp : rowPlan poly c s ySpace = .error e) :
    e ≠ .other := by
  unfold rowPlan at hp
  split at hp
  · split_ifs at hp
    · cases hp; nofun
    · simp only at hp
      split_ifs at hp
      cases hp; nofun
  · cases hp; nofun

theorem pointShift_ne : Gen.RowWise.pointShift ≠ 0 := by unfold Gen.RowWise.pointShift; norm_num

theorem verticalRowRatio_nonneg : 0 ≤ Gen.RowWise.verticalRowRatio := by
  unfold Gen.RowWise.verticalRowRatio; norm_num

/-- The rotation is not in the band where a row is declared vertical without being vertical. -/
def NoBand (c s : Rat) : Prop := c = 0 ∨ Gen.RowWise.verticalRowRatio * |s| < |c|

theorem rowSeg_dir (c s : Rat) (h : c * c + s * s = 1) (hband : NoBand c s) (lowest : Pt) (sp : Rat) (hsp : sp ≠ 0) (k : Nat) :
    RowDir c s (rowSeg lowest (-1 * sp * s) (sp * c) k) := by
  unfold rowSeg
  by_cases hc : c = 0
  · have hs0 : s ≠ 0 := fun h0 => by rw [hc, h0] at h; norm_num at h
    rw [if_pos (by
      rw [hc, mul_zero, ratAbs_eq_abs, ratAbs_eq_abs, abs_zero]
      exact mul_nonneg verticalRowRatio_nonneg (abs_nonneg _))]
    refine ⟨Gen.RowWise.pointShift / s, div_ne_zero pointShift_ne hs0, ?_, ?_⟩
    · simp only [hc, mul_zero, sub_self]
    · rw [add_sub_cancel_left, div_mul_cancel₀ _ hs0]
  · have e : |-1 * sp * s| = |sp| * |s| := by rw [neg_one_mul, neg_mul, abs_neg, abs_mul]
    rw [if_neg (by
      rw [ratAbs_eq_abs, ratAbs_eq_abs, not_le, abs_mul sp c, e, mul_left_comm]
      exact mul_lt_mul_of_pos_left (hband.resolve_left hc) (abs_pos.mpr hsp))]
    refine ⟨Gen.RowWise.pointShift / c, div_ne_zero pointShift_ne hc, ?_, ?_⟩
    · rw [add_sub_cancel_left, div_mul_cancel₀ _ hc]
    · rw [add_sub_cancel_left, neg_one_mul, neg_mul, neg_neg, mul_div_mul_left _ _ hsp, div_mul_comm]

/-! ### every borehole lies on a chord of its row -/

/-- `a` lies on the row between two points of `f` (or is one of them). -/
def OnChord (c s : Rat) (f : List Pt) (a : Pt) : Prop :=
  ∃ p ∈ f, ∃ t u, along c s p t ∈ f ∧ Between t u ∧ a = along c s p u

theorem OnChord.of_mem {c s : Rat} {f : List Pt} {p : Pt} (hp : p ∈ f) : OnChord c s f p :=
  ⟨p, hp, 0, 0, by rwa [along_zero], Or.inl ⟨le_rfl, le_rfl⟩, (along_zero c s p).symm⟩

theorem OnChord.mono {c s : Rat} {f g : List Pt} {a : Pt} (hfg : ∀ x ∈ f, x ∈ g) : OnChord c s f a → OnChord c s g a
  | ⟨p, hp, t, u, hq, hu, e⟩ => ⟨p, hfg p hp, t, u, hfg _ hq, hu, e⟩

theorem OnChord.convex {c s : Rat} {f : List Pt} {a : Pt} {P : Pt → Prop} (hP : RowConvex c s P) (hf : ∀ p ∈ f, P p) :
    OnChord c s f a → P a
  | ⟨p, hp, t, u, hq, hu, e⟩ => e ▸ hP p t u (hf p hp) (hf _ hq) hu

theorem processRows_chord (c s space : Rat) (h : c * c + s * s = 1) (hs : 0 < space) {b p q : Pt} {f : List Pt}
    (hf : RowList c s b (p :: f)) (hq : q ∈ f) (acc : List Pt) :
    Returns (processRows c s space p q acc) fun r => ∀ a ∈ r, a ∈ acc ∨ OnChord c s (p :: f) a := by
  obtain ⟨e, h0⟩ := hf.ahead h hq
  have := processRows_mem c s space h hs p _ (Or.inl h0) acc
  rw [← e] at this
  refine this.mono fun r hr a ha => (hr a ha).imp_right ?_
  rintro ⟨u, hu, rfl⟩
  exact ⟨p, List.mem_cons_self, _, u, by rw [← e]; exact List.mem_cons_of_mem _ hq, hu, rfl⟩

theorem oddLoop_mem (poly : List Pt) (c s space : Rat) (h : c * c + s * s = 1) (hs : 0 < space) (b : Pt) :
    ∀ (f acc : List Pt), RowList c s b f →
      Returns (oddLoop poly c s space f acc) fun r => ∀ a ∈ r, a ∈ acc ∨ OnChord c s f a
  | [], _, _ | [_], _, _ => by simp only [oddLoop]; exact .ok fun a ha => Or.inl ha
  | p :: q :: rest, acc, hf => by
    have ih : ∀ acc', Returns (oddLoop poly c s space (q :: rest) acc') fun r =>
        ∀ a ∈ r, a ∈ acc' ∨ OnChord c s (p :: q :: rest) a := fun acc' =>
      (oddLoop_mem poly c s space h hs b (q :: rest) acc' hf.tail).mono fun r hr a ha =>
        (hr a ha).imp_right (OnChord.mono fun x hx => List.mem_cons_of_mem _ hx)
    rw [oddLoop]
    split_ifs
    · refine (processRows_chord c s space h hs hf List.mem_cons_self acc).bind fun acc' hacc' =>
        (ih acc').mono fun r hr a ha => (hr a ha).elim (hacc' a) Or.inr
    · exact ih acc

/-- true when a line meets a convex outline: a vertex hit adds a duplicate and makes the number odd -/
def EvenAtMostTwo (f : List Pt) : Prop := f.length % 2 = 0 → f.length ≤ 2

theorem rowStep_mem (poly : List Pt) (c s tol space : Rat) (h : c * c + s * s = 1) (hs : 0 < space) (htol : 0 ≤ tol)
    (row : Seg) (hdir : RowDir c s row) (acc : List Pt) :
    Returns (rowStep poly c s tol space row acc) fun r => EvenAtMostTwo (dedupe tol (lineIntersect poly row c s tol)) →
      ∀ a ∈ r, a ∈ acc ∨ OnChord c s (rawIntersections poly row tol) a := by
  have hf := rowList_of_row c s tol h htol poly row hdir
  have hsub : ∀ x ∈ dedupe tol (lineIntersect poly row c s tol), x ∈ rawIntersections poly row tol :=
    fun x hx => (mem_sortIntersections c s x _).mp ((dedupe_sublist tol _).subset hx)
  unfold rowStep
  simp only
  generalize dedupe tol (lineIntersect poly row c s tol) = f at *
  have hev := evenLoop_returns c s space h hs _ f none acc hf
  match f, hf, hsub, hev with
  | [], _, _, _ => exact .ok fun _ a ha => Or.inl ha
  | [p], _, hsub, _ =>
    refine .ok fun _ a ha => ?_
    rcases mem_pushNew _ _ _ ha with rfl | ha
    · exact Or.inr (.of_mem (hsub a List.mem_cons_self))
    · exact Or.inl ha
  | [p, q], hf, hsub, hev =>
    simp only [List.length_cons, List.length_nil, Nat.reduceAdd, Nat.mod_self, if_true]
    split_ifs with hshort
    · refine .ok fun _ a ha => ?_
      rcases List.mem_cons.mp ha with rfl | ha
      · exact Or.inr (.of_mem (hsub a List.mem_cons_self))
      · exact Or.inl ha
    · rw [evenLoop_cons, evenSeg, if_neg hshort]
      exact (processRows_chord c s space h hs hf List.mem_cons_self acc).bind fun acc' hacc' =>
        .ok fun _ a ha => (hacc' a ha).imp_right (OnChord.mono hsub)
  | p :: q :: x :: rest, hf, hsub, hev =>
    split_ifs with hpar
    · exact hev.mono fun _ _ hsimple => absurd (hsimple hpar) (by simp)
    · exact (oddLoop_mem poly c s space h hs _ _ acc hf).mono fun r hr _ a ha => (hr a ha).imp_right (OnChord.mono hsub)

theorem rowsLoop_mem (poly : List Pt) (c s tol space : Rat) (h : c * c + s * s = 1) (hs : 0 < space) (htol : 0 ≤ tol)
    (lowest : Pt) (rs0 rs1 : Rat) (hdir : ∀ k, RowDir c s (rowSeg lowest rs0 rs1 k)) (ks : List Nat) (acc : List Pt) :
    Returns (rowsLoop poly c s tol space lowest rs0 rs1 ks acc) fun r =>
      (∀ k ∈ ks, EvenAtMostTwo (dedupe tol (lineIntersect poly (rowSeg lowest rs0 rs1 k) c s tol))) →
        ∀ a ∈ r, a ∈ acc ∨ ∃ k ∈ ks, OnChord c s (rawIntersections poly (rowSeg lowest rs0 rs1 k) tol) a := by
  induction ks generalizing acc with
  | nil => exact .ok fun _ a ha => Or.inl ha
  | cons k ks ih =>
    rw [rowsLoop]
    refine (rowStep_mem poly c s tol space h hs htol _ (hdir k) acc).bind fun acc' h1 =>
      (ih acc').mono fun r h2 hsimple a ha => ?_
    rcases h2 (fun k' hk' => hsimple k' (List.mem_cons_of_mem _ hk')) a ha with h3 | h3
    · exact (h1 (hsimple k List.mem_cons_self) a h3).imp_right fun hc => ⟨k, List.mem_cons_self, hc⟩
    · obtain ⟨k', hk', hc⟩ := h3
      exact Or.inr ⟨k', List.mem_cons_of_mem _ hk', hc⟩

theorem genBoreholeConfig_eq_bind (poly : List Pt) (ySpace xSpace c s tol : Rat) :
    genBoreholeConfig poly ySpace xSpace c s tol = rowPlan poly c s ySpace >>= fun (numRows, lowest, rs0, rs1) =>
      rowsLoop poly c s tol xSpace lowest rs0 rs1 (List.range (numRows + 1).toNat) [] >>= fun acc =>
        .ok (removeDuplicates xSpace acc.reverse) := by
  unfold genBoreholeConfig
  rcases rowPlan poly c s ySpace with e | ⟨numRows, lowest, rs0, rs1⟩
  · rfl
  · dsimp only [Py.ok_bind]
    rcases rowsLoop poly c s tol xSpace lowest rs0 rs1 (List.range (numRows + 1).toNat) [] with e | acc
    · rfl
    · rfl

/-- **Generation** returns, and with simple rows every borehole lies on row `k` of the plan, between two intersections
    of that row with the outline. -/
theorem genBoreholeConfig_mem (poly : List Pt) (ySpace xSpace c s tol : Rat) (h : c * c + s * s = 1)
    (hband : NoBand c s) (hs : 0 < xSpace) (htol : 0 ≤ tol) :
    Returns (genBoreholeConfig poly ySpace xSpace c s tol) fun field => rowsSimple poly ySpace c s tol = true →
      ∀ a ∈ field, ∃ numRows lowest rs0 rs1, rowPlan poly c s ySpace = .ok (numRows, lowest, rs0, rs1) ∧
        ∃ k ∈ List.range (numRows + 1).toNat, OnChord c s (rawIntersections poly (rowSeg lowest rs0 rs1 k) tol) a := by
  rw [genBoreholeConfig_eq_bind]
  refine Returns.bind' (Q := fun p => rowPlan poly c s ySpace = .ok p)
    ⟨fun he => rowPlan_err poly c s ySpace _ he rfl, fun _ hp => hp⟩ fun ⟨numRows, lowest, rs0, rs1⟩ hp => ?_
  have hdir : ∀ k, RowDir c s (rowSeg lowest rs0 rs1 k) := by
    obtain ⟨lo, hi, hv, _, _, hnr, hnr0, rfl, rfl⟩ := rowPlan_eq_ok poly c s ySpace numRows lowest rs0 rs1 hp
    -- the row step `(hi − lo) / numRows` is not zero: otherwise `numRows = ⌊0 / ySpace⌋ = 0`
    refine rowSeg_dir c s h hband lowest _ fun hz => hnr0 ?_
    have hd : hi - lo = 0 := (div_eq_zero_iff.mp hz).resolve_right (by exact_mod_cast hnr0)
    rw [hnr, hd, zero_div]; exact (Int.floor_zero : ⌊(0 : ℚ)⌋ = 0)
  refine Returns.bind' (rowsLoop_mem poly c s tol xSpace h hs htol lowest rs0 rs1 hdir _ []) fun acc hacc =>
    .ok fun hsimple a ha => ?_
  rw [rowsSimple, hp] at hsimple
  simp only [List.all_eq_true, decide_eq_true_eq] at hsimple
  rcases hacc hsimple a (List.mem_reverse.mp (removeDuplicates_subset xSpace _ a ha)) with h3 | h3
  · cases h3
  · exact ⟨numRows, lowest, rs0, rs1, hp, h3⟩

/-! ### the rotation sweep -/

/-- Loop invariant of `sweepCounts` (the sweep on field sizes, `rw_sweep`): `best` is the first strict maximum of `pre`;
    at `pre = []` the result is the first index of the largest size, `none` when all are 0.  `foldl_argmin_spec` does not
    serve: the index is carried beside the list, and "first on ties" needs the indices to increase. -/
theorem sweepCounts_spec (ns : List Nat) : ∀ (pre : List Nat) (best : Nat × Option Nat),
    ((∀ (j : Nat) (n : Nat), pre[j]? = some n → n ≤ best.1) ∧
      match best.2 with
      | none => best.1 = 0
      | some i => pre[i]? = some best.1 ∧ 0 < best.1 ∧ ∀ (j : Nat) (n : Nat), j < i → pre[j]? = some n → n < best.1) →
    match sweepCounts ns pre.length best with
    | none => ∀ n ∈ pre ++ ns, n = 0
    | some i => ∃ m, (pre ++ ns)[i]? = some m ∧ 0 < m ∧ (∀ n ∈ pre ++ ns, n ≤ m) ∧
        ∀ (j : Nat) (n : Nat), j < i → (pre ++ ns)[j]? = some n → n < m := by
  induction ns with
  | nil =>
    intro pre best ⟨hmax, hb⟩
    have hall : ∀ n ∈ pre, n ≤ best.1 := fun n hn => by
      obtain ⟨j, hj⟩ := List.mem_iff_getElem?.mp hn
      exact hmax j n hj
    rw [sweepCounts, List.append_nil]
    cases h2 : best.2 with
    | none =>
      rw [h2] at hb
      exact fun n hn => Nat.le_zero.mp (hb ▸ hall n hn)
    | some i =>
      rw [h2] at hb
      exact ⟨best.1, hb.1, hb.2.1, hall, hb.2.2⟩
  | cons n ns ih =>
    intro pre best ⟨hmax, hb⟩
    unfold sweepCounts
    have e : pre ++ n :: ns = (pre ++ [n]) ++ ns := by simp
    have hlen : (pre ++ [n]).length = pre.length + 1 := by simp
    rw [e, ← hlen]
    apply ih
    -- an entry of `pre ++ [n]` is one of `pre` or the new one; the four parts of the invariant split along this
    have hget : ∀ j x, (pre ++ [n])[j]? = some x → (pre[j]? = some x ∧ j < pre.length) ∨ (j = pre.length ∧ x = n) := by
      intro j x hx
      rcases Nat.lt_trichotomy j pre.length with hj | hj | hj
      · rw [List.getElem?_append_left hj] at hx; exact Or.inl ⟨hx, hj⟩
      · subst hj; rw [List.getElem?_concat_length] at hx; exact Or.inr ⟨rfl, (Option.some.inj hx).symm⟩
      · rw [List.getElem?_eq_none (by rw [List.length_append, List.length_singleton]; omega)] at hx; cases hx
    by_cases hgt : n > best.1
    · rw [if_pos hgt]
      refine ⟨?_, ?_⟩
      · intro j x hx
        rcases hget j x hx with ⟨hx', _⟩ | ⟨_, rfl⟩
        · exact le_trans (hmax j x hx') (le_of_lt hgt)
        · exact le_rfl
      · simp only
        refine ⟨List.getElem?_concat_length, by omega, ?_⟩
        intro j x hj hx
        rcases hget j x hx with ⟨hx', _⟩ | ⟨hj', _⟩
        · exact lt_of_le_of_lt (hmax j x hx') hgt
        · omega
    · rw [if_neg hgt]
      refine ⟨?_, ?_⟩
      · intro j x hx
        rcases hget j x hx with ⟨hx', _⟩ | ⟨_, rfl⟩
        · exact hmax j x hx'
        · exact not_lt.mp hgt
      · cases h2 : best.2 with
        | none => rw [h2] at hb; simpa using hb
        | some i =>
          rw [h2] at hb; simp only at hb ⊢
          have hi : i < pre.length := (List.getElem?_eq_some_iff.mp hb.1).fst
          refine ⟨by rw [List.getElem?_append_left hi]; exact hb.1, hb.2.1, ?_⟩
          intro j x hj hx
          rcases hget j x hx with ⟨hx', _⟩ | ⟨hj', _⟩
          · exact hb.2.2 j x hj hx'
          · omega

/-- `0` when `gen` raises -/
def fieldSize (gen : Rat × Rat → Py (List Pt)) (r : Rat × Rat) : Nat :=
  match gen r with
  | .ok hole => hole.length
  | .error _ => 0

/-- The sweep chooses the index `sweepCounts` chooses on the field sizes, and keeps the field generated there. -/
theorem sweepLoop_counts (gen : Rat × Rat → Py (List Pt)) : ∀ (rs : List (Rat × Rat)) (idx : Nat)
    (best res : Nat × Option (Nat × List Pt)), sweepLoop gen rs idx best = .ok res →
      res.2.map Prod.fst = sweepCounts (rs.map (fieldSize gen)) idx (best.1, best.2.map Prod.fst) ∧
      ∀ i hole, res.2 = some (i, hole) →
        best.2 = some (i, hole) ∨ idx ≤ i ∧ ∃ r, rs[i - idx]? = some r ∧ gen r = .ok hole
  | [], idx, best, res, hr => by
    rw [sweepLoop] at hr
    cases hr
    exact ⟨rfl, fun i hole h => Or.inl h⟩
  | r :: rs, idx, best, res, hr => by
    rw [sweepLoop] at hr
    cases hg : gen r with
    | error e => rw [hg] at hr; cases hr
    | ok hole =>
      rw [hg] at hr
      obtain ⟨h1, h2⟩ := sweepLoop_counts gen rs (idx + 1) _ res hr
      have hsize : fieldSize gen r = hole.length := by rw [fieldSize, hg]
      refine ⟨?_, fun i hole' hi => ?_⟩
      · rw [h1, List.map_cons, sweepCounts, hsize, sweepStep]
        split_ifs
        · rfl
        · rfl
      · rcases h2 i hole' hi with h3 | ⟨hle, r', hr', hgr'⟩
        · rw [sweepStep] at h3
          split_ifs at h3
          · simp only [Option.some.injEq, Prod.mk.injEq] at h3
            obtain ⟨rfl, rfl⟩ := h3
            exact Or.inr ⟨le_rfl, r, by rw [Nat.sub_self]; rfl, hg⟩
          · exact Or.inl h3
        · refine Or.inr ⟨by omega, r', ?_, hgr'⟩
          rw [show i - idx = i - (idx + 1) + 1 by omega, List.getElem?_cons_succ]
          exact hr'

theorem fieldOptimizationFr_eq_bind (poly : List Pt) (space tol : Rat) (rots : List (Rat × Rat)) :
    fieldOptimizationFr poly space tol rots =
      sweepLoop (fun r => genBoreholeConfig poly space space r.1 r.2 tol) rots 0 (0, none) >>= fun best =>
        match best.2 with
        | none => .error .typeError
        | some (idx, hole) => .ok (idx, removeDuplicates (space * Gen.RowWise.sweepDupFactor) hole) := by
  unfold fieldOptimizationFr
  rcases sweepLoop (fun r => genBoreholeConfig poly space space r.1 r.2 tol) rots 0 (0, none)
    with e | ⟨n, _ | ⟨idx, hole⟩⟩
  · rfl
  · rfl
  · rfl

theorem sweepLoop_argmax (gen : Rat × Rat → Py (List Pt)) (rots : List (Rat × Rat)) (n i : Nat) (hole : List Pt)
    (hsw : sweepLoop gen rots 0 (0, none) = .ok (n, some (i, hole))) :
    ∃ r, rots[i]? = some r ∧ gen r = .ok hole ∧ 0 < hole.length ∧
      (∀ (j : Nat) (r' : Rat × Rat) (h : List Pt), rots[j]? = some r' → gen r' = .ok h → h.length ≤ hole.length) ∧
      ∀ (j : Nat) (r' : Rat × Rat) (h : List Pt), j < i → rots[j]? = some r' → gen r' = .ok h → h.length < hole.length := by
  obtain ⟨hidx, hfield⟩ := sweepLoop_counts gen rots 0 (0, none) _ hsw
  simp only [Option.map_some, Option.map_none] at hidx
  obtain ⟨_, r, hri, hgr⟩ := (hfield i hole rfl).resolve_left nofun
  have hsize : ∀ (j : Nat) (r' : Rat × Rat) (h : List Pt), rots[j]? = some r' → gen r' = .ok h →
      (rots.map (fieldSize gen))[j]? = some h.length := fun j r' h hj hg => by
    rw [List.getElem?_map, hj, Option.map_some, fieldSize, hg]
  have hspec := sweepCounts_spec (rots.map (fieldSize gen)) [] (0, none) ⟨by simp, rfl⟩
  rw [List.length_nil, ← hidx] at hspec
  obtain ⟨m, hm, hpos, hmax, hfirst⟩ := hspec
  obtain rfl : hole.length = m := Option.some.inj ((hsize i r hole hri hgr).symm.trans hm)
  exact ⟨r, hri, hgr, hpos, fun j r' h hj hg => hmax _ (List.mem_of_getElem? (hsize j r' h hj hg)),
    fun j r' h hji hj hg => hfirst j _ hji (hsize j r' h hj hg)⟩

theorem sweepLoop_ne_other (gen : Rat × Rat → Py (List Pt)) : ∀ (rs : List (Rat × Rat)) (i : Nat)
    (best : Nat × Option (Nat × List Pt)), (∀ r ∈ rs, gen r ≠ .error .other) → sweepLoop gen rs i best ≠ .error .other
  | [], _, _, _ => nofun
  | r :: rs, _, _, hr => by
    rw [sweepLoop]
    cases hg : gen r with
    | error e => exact fun (hh : Except.error e = _) => hr r List.mem_cons_self (by rw [hg, Except.error.inj hh])
    | ok hole => exact sweepLoop_ne_other gen rs _ _ fun x hx => hr x (List.mem_cons_of_mem _ hx)

/-! ### the lattice on a rectangle, rotation 0 -/

def rectPoly (x0 y0 W H : Rat) : List Pt := [(x0, y0), (x0 + W, y0), (x0 + W, y0 + H), (x0, y0 + H)]

/-- rows bottom to top, each row left to right -/
def lattice (x0 y0 W H : Rat) (nx ny : Nat) : List Pt :=
  (List.range (ny + 1)).flatMap (fun (j : Nat) => (List.range (nx + 1)).map (fun (i : Nat) =>
    (x0 + (i : Rat) * (W / (nx : Rat)), y0 + (j : Rat) * (H / (ny : Rat)))))

/-- The binders of `lattice` carry `Nat`; without them the same text elaborates through the list monad
    (`do let a ← List.range _; pure ↑a`).  Same list. -/
theorem rect_lattice_literal (x0 y0 W H : Rat) (nx ny : Nat) :
    lattice x0 y0 W H nx ny =
      (List.range (ny + 1)).flatMap (fun j => (List.range (nx + 1)).map (fun i =>
        (x0 + (i : Rat) * (W / (nx : Rat)), y0 + (j : Rat) * (H / (ny : Rat))))) := by
  simp [lattice, ← List.map_eq_flatMap, List.flatMap_map, Function.comp_def]

theorem ypOf_of_nonneg (c s : Rat) (v : Pt) (h1 : 0 ≤ v.1) (h2 : 0 ≤ v.2) :
    ypOf c s v = v.2 * c - v.1 * s := by
  unfold ypOf
  split_ifs with h0 hp
  · rw [h0, ratAbs_eq_abs, abs_of_nonneg h2]; ring
  · rfl
  · exact absurd (lt_of_le_of_ne h1 (Ne.symm h0)) hp

theorem rect_ypOf (v : Pt) (h1 : 0 ≤ v.1) (h2 : 0 ≤ v.2) : ypOf 1 0 v = v.2 :=
  (ypOf_of_nonneg 1 0 v h1 h2).trans (by ring)

theorem rect_extremes (x0 y0 W H : Rat) (hx : 0 ≤ x0) (hy : 0 ≤ y0) (hW : 0 ≤ W) (hH : 0 < H) :
    extremes 1 0 (rectPoly x0 y0 W H) none none
      = (some (y0, (x0, y0)), some (y0 + H, (x0 + W, y0 + H))) := by
  have e1 : ypOf 1 0 (x0, y0) = y0 := rect_ypOf _ hx hy
  have e2 : ypOf 1 0 (x0 + W, y0) = y0 := rect_ypOf _ (add_nonneg hx hW) hy
  have e3 : ypOf 1 0 (x0 + W, y0 + H) = y0 + H := rect_ypOf _ (add_nonneg hx hW) (add_nonneg hy hH.le)
  have e4 : ypOf 1 0 (x0, y0 + H) = y0 + H := rect_ypOf _ hx (add_nonneg hy hH.le)
  -- strict comparisons: the first bottom and the first top corner are kept
  simp [rectPoly, extremes, e1, e2, e3, e4, hH, not_lt.mpr hH.le]

theorem rect_rowPlan (x0 y0 W H sp : Rat) (ny : Nat) (hx : 0 ≤ x0) (hy : 0 ≤ y0) (hs : 0 < sp)
    (hW : 0 ≤ W) (hH : 0 < H) (hny : (H / sp).floor = (ny : Int)) (hny1 : 1 ≤ ny) :
    rowPlan (rectPoly x0 y0 W H) 1 0 sp = .ok ((ny : Int), (x0, y0), 0, H / (ny : Rat)) := by
  have h0 : ny ≠ 0 := by omega
  have hd : y0 + H - y0 = H := by ring
  simp [rowPlan, rect_extremes x0 y0 W H hx hy hW hH, hs.ne', hd, hny, h0]

theorem inBox_of_between (tol : Rat) (ht : 0 ≤ tol) (c1 c2 r : Pt) (hx : min c2.1 c1.1 ≤ r.1 ∧ r.1 ≤ max c2.1 c1.1)
    (hy : min c2.2 c1.2 ≤ r.2 ∧ r.2 ≤ max c2.2 c1.2) : inBox tol c1 c2 r = true :=
  (inBox_iff tol c1 c2 r).mpr ⟨by linarith, by linarith, by linarith, by linarith⟩

theorem rect_intersections (x0 y0 W H tol P y : Rat) (hW : 0 < W) (ht : 0 ≤ tol) (htW : tol < W) (hP : P ≠ 0)
    (h1 : y0 ≤ y) (h2 : y ≤ y0 + H) :
    dedupe tol (lineIntersect (rectPoly x0 y0 W H) ⟨x0, y, x0 + P, y⟩ 1 0 tol) = [(x0, y), (x0 + W, y)] := by
  have b1 : inBox tol (x0 + W, y0) (x0 + W, y0 + H) (x0 + W, y) = true :=
    inBox_of_between tol ht _ _ _ ⟨by simp, by simp⟩ ⟨le_trans (min_le_right _ _) h1, le_trans h2 (le_max_left _ _)⟩
  have b2 : inBox tol (x0, y0 + H) (x0, y0) (x0, y) = true :=
    inBox_of_between tol ht _ _ _ ⟨by simp, by simp⟩ ⟨le_trans (min_le_left _ _) h1, le_trans h2 (le_max_right _ _)⟩
  -- bottom and top are parallel to the row (no hit); the right edge is met first, then the left; both pass the box test
  have hraw : rawIntersections (rectPoly x0 y0 W H) ⟨x0, y, x0 + P, y⟩ tol = [(x0 + W, y), (x0, y)] := by
    simp [rawIntersections, edges, rectPoly, edgeHit, vectorIntersect, slope, hP, hW.ne', ratAbs_eq_abs, ht, b1, b2]
  have hclose : ¬ |W| ≤ tol := fun h => absurd (le_trans (le_abs_self W) h) (not_le.mpr htW)
  rw [lineIntersect, hraw]
  -- sorted by abscissa; `W > tol` apart, so `dedupe` keeps both
  simp [sortIntersections, insertKey, keyLe, proj, not_lt.mpr hW.le, hW.ne', dedupe, close, ratAbs_eq_abs, hclose]

def rectRow (x0 st y : Rat) (n : Nat) : List Pt :=
  (List.range n).map (fun (i : Nat) => (x0 + (i : Rat) * st, y))

theorem rect_distribute (x0 W y sp : Rat) (nx : Nat) (acc : List Pt) (hs : 0 < sp) (hW : sp ≤ W)
    (hnx : (W / sp).floor = (nx : Int)) (hdt : Gen.RowWise.distributeTol ≤ sp)
    (hacc : acc.head? ≠ some (x0, y)) :
    distribute 1 0 sp (x0, y) (x0 + W, y) acc = .ok ((rectRow x0 (W / (nx : Rat)) y (nx + 1)).reverse ++ acc) := by
  have := distribute_closed 1 0 sp (by norm_num) hs hdt (x0, y) W hW acc hacc
  simpa only [along, mul_one, mul_zero, add_zero, hnx, Int.toNat_natCast, Int.cast_natCast, rectRow] using this

theorem rect_rowStep (x0 y0 W H sp tol P y : Rat) (nx : Nat) (acc : List Pt) (hs : 0 < sp)
    (hW : sp ≤ W) (ht0 : 0 ≤ tol) (htW : tol < W) (hP : P ≠ 0) (h1 : y0 ≤ y)
    (h2 : y ≤ y0 + H) (hnx : (W / sp).floor = (nx : Int)) (hnx1 : 1 ≤ nx)
    (hdt : Gen.RowWise.distributeTol ≤ sp) (hacc : acc.head? ≠ some (x0, y)) :
    rowStep (rectPoly x0 y0 W H) 1 0 tol sp ⟨x0, y, x0 + P, y⟩ acc
      = .ok ((rectRow x0 (W / (nx : Rat)) y (nx + 1)).reverse ++ acc) := by
  have hW0 : 0 < W := lt_of_lt_of_le hs hW
  have hdx : rowDist 1 0 (x0, y) (x0 + W, y) = W := by
    simp [rowDist, proj, ratAbs_eq_abs, abs_of_pos hW0]
  have hfl : ¬ ((nx : Int) < 1) := by omega
  unfold rowStep
  rw [rect_intersections x0 y0 W H tol P y hW0 ht0 htW hP h1 h2]
  -- one pair, `W ≥ sp` apart: no offset, `process_rows` calls `distribute`
  simp only [List.length_cons, List.length_nil, Nat.reduceAdd, Nat.reduceMod, if_true, hdx,
    not_lt.mpr hW, if_false, evenLoop, processRows, hs.ne', hnx, hfl,
    rect_distribute x0 W y sp nx acc hs hW hnx hdt hacc]

theorem rect_rowSeg (x0 y0 st : Rat) (k : Nat) (hst : st ≠ 0) :
    rowSeg (x0, y0) 0 st k
      = ⟨x0, y0 + (k : Rat) * st, x0 + Gen.RowWise.pointShift, y0 + (k : Rat) * st⟩ := by
  unfold rowSeg
  have hne : ¬ ratAbs st ≤ Gen.RowWise.verticalRowRatio * ratAbs 0 := by
    rw [ratAbs_eq_abs, ratAbs_eq_abs, abs_zero, mul_zero, not_le]
    exact abs_pos.mpr hst
  simp [hne]

theorem rectRow_head (x0 st y : Rat) (n : Nat) (acc : List Pt) :
    ((rectRow x0 st y (n + 1)).reverse ++ acc).head? = some (x0 + (n : Rat) * st, y) := by
  simp [rectRow, List.range_succ]

/-- The condition on `acc`: a row ends at `x0 + W`, so `pushNew` does not swallow the first point `(x0, y)` of the next. -/
theorem rect_rowsLoop (x0 y0 W H sp tol : Rat) (nx ny : Nat) (hs : 0 < sp) (hW : sp ≤ W)
    (hH : 0 < H) (ht0 : 0 ≤ tol) (htW : tol < W) (hnx : (W / sp).floor = (nx : Int)) (hnx1 : 1 ≤ nx)
    (hny1 : 1 ≤ ny) (hdt : Gen.RowWise.distributeTol ≤ sp) :
    ∀ (ks : List Nat) (acc : List Pt), (∀ k ∈ ks, k ≤ ny) → (∀ q, acc.head? = some q → q.1 ≠ x0) →
      rowsLoop (rectPoly x0 y0 W H) 1 0 tol sp (x0, y0) 0 (H / (ny : Rat)) ks acc
        = .ok ((ks.flatMap (fun (k : Nat) =>
            rectRow x0 (W / (nx : Rat)) (y0 + (k : Rat) * (H / (ny : Rat))) (nx + 1))).reverse ++ acc)
  | [], acc, _, _ => by simp [rowsLoop]
  | k :: ks, acc, hks, hacc => by
    have hnyq : (0 : Rat) < ny := by exact_mod_cast hny1
    have hnxq : (0 : Rat) < nx := by exact_mod_cast hnx1
    have hst : 0 < H / (ny : Rat) := div_pos hH hnyq
    have hk : (k : Rat) ≤ ny := by exact_mod_cast hks k List.mem_cons_self
    have h1 : y0 ≤ y0 + (k : Rat) * (H / (ny : Rat)) := le_add_of_nonneg_right (mul_nonneg k.cast_nonneg hst.le)
    have h2 : y0 + (k : Rat) * (H / (ny : Rat)) ≤ y0 + H := by
      have := mul_le_mul_of_nonneg_right hk hst.le
      rwa [mul_div_cancel₀ _ hnyq.ne', ← add_le_add_iff_left y0] at this
    have hstep := rect_rowStep x0 y0 W H sp tol Gen.RowWise.pointShift
      (y0 + (k : Rat) * (H / (ny : Rat))) nx acc hs hW ht0 htW pointShift_ne h1 h2 hnx hnx1 hdt fun h => hacc _ h rfl
    have ih := rect_rowsLoop x0 y0 W H sp tol nx ny hs hW hH ht0 htW hnx hnx1 hny1 hdt ks
      ((rectRow x0 (W / (nx : Rat)) (y0 + (k : Rat) * (H / (ny : Rat))) (nx + 1)).reverse ++ acc)
      (fun j hj => hks j (List.mem_cons_of_mem _ hj))
      (by
        intro q hq
        rw [rectRow_head] at hq
        cases hq
        simp only [mul_div_cancel₀ _ hnxq.ne']; exact (lt_add_of_pos_right x0 (hs.trans_le hW)).ne')
    rw [rowsLoop, rect_rowSeg x0 y0 _ k hst.ne', hstep]
    simp only [ih, List.flatMap_cons, List.reverse_append, List.append_assoc]

theorem rect_sep (x0 y0 stx sty t : Rat) (a b : Nat) (hx0 : 0 < stx) (hy0 : 0 < sty)
    (hx : t ≤ stx * stx) (hy : t ≤ sty * sty) :
    ((List.range a).flatMap (fun (j : Nat) => (List.range b).map (fun (i : Nat) =>
      ((x0 + (i : Rat) * stx, y0 + (j : Rat) * sty) : Pt)))).Pairwise
        (fun q p => t ≤ sqDist q p) := by
  have e : ∀ i i' j j' : Nat, sqDist ((x0 + (i : Rat) * stx, y0 + (j : Rat) * sty) : Pt)
      (x0 + (i' : Rat) * stx, y0 + (j' : Rat) * sty)
      = ((i : Rat) * stx - i' * stx) * ((i : Rat) * stx - i' * stx)
        + ((j : Rat) * sty - j' * sty) * ((j : Rat) * sty - j' * sty) := by
    intro i i' j j'
    simp only [sqDist]; ring
  rw [List.pairwise_flatMap]
  constructor
  · intro j _
    rw [List.pairwise_map]
    refine List.pairwise_lt_range.imp fun {i i'} h => ?_
    rw [e]
    exact (hx.trans (sq_le_sq_steps stx stx i i' hx0.le le_rfl h)).trans (le_add_of_nonneg_right (mul_self_nonneg _))
  · refine List.pairwise_lt_range.imp fun {j j'} h p hp q hq => ?_
    simp only [List.mem_map] at hp hq
    obtain ⟨i, _, rfl⟩ := hp
    obtain ⟨i', _, rfl⟩ := hq
    rw [e]
    exact (hy.trans (sq_le_sq_steps sty sty j j' hy0.le le_rfl h)).trans (le_add_of_nonneg_left (mul_self_nonneg _))

theorem rect_lattice (x0 y0 W H sp tol : Rat) (hx : 0 ≤ x0) (hy : 0 ≤ y0) (hs : 0 < sp)
    (hW : sp ≤ W) (hH : sp ≤ H) (ht0 : 0 ≤ tol) (htW : tol < W)
    (hdt : Gen.RowWise.distributeTol ≤ sp) :
    genBoreholeConfig (rectPoly x0 y0 W H) sp sp 1 0 tol
      = .ok (lattice x0 y0 W H (W / sp).floor.toNat (H / sp).floor.toNat) := by
  obtain ⟨nx, hnx, hnx1, hstx, _⟩ := floor_steps W sp hs hW
  obtain ⟨ny, hny, hny1, hsty, _⟩ := floor_steps H sp hs hH
  have ex : (W / sp).floor.toNat = nx := by rw [hnx]; rfl
  have ey : (H / sp).floor.toNat = ny := by rw [hny]; rfl
  rw [ex, ey]
  have hW0 : 0 < W := lt_of_lt_of_le hs hW
  have hH0 : 0 < H := lt_of_lt_of_le hs hH
  have hloop := rect_rowsLoop x0 y0 W H sp tol nx ny hs hW hH0 ht0 htW hnx hnx1 hny1 hdt
    (List.range (ny + 1)) [] (by intro k hk; rw [List.mem_range] at hk; omega) (by simp)
  have htn : ((ny : Int) + 1).toNat = ny + 1 := by omega
  have hlat : (List.range (ny + 1)).flatMap (fun (k : Nat) =>
      rectRow x0 (W / (nx : Rat)) (y0 + (k : Rat) * (H / (ny : Rat))) (nx + 1))
      = lattice x0 y0 W H nx ny := rfl
  have hsep : (lattice x0 y0 W H nx ny).Pairwise (fun q p =>
      (sp * Gen.RowWise.dupFactor) * (sp * Gen.RowWise.dupFactor) ≤ sqDist q p) := by
    have hd : 0 ≤ sp * Gen.RowWise.dupFactor ∧ sp * Gen.RowWise.dupFactor ≤ sp := by
      unfold Gen.RowWise.dupFactor; constructor <;> linarith only [hs]
    have ht := mul_self_le_mul_self hd.1 hd.2
    apply rect_sep x0 y0 (W / (nx : Rat)) (H / (ny : Rat)) _ (ny + 1) (nx + 1)
      (lt_of_lt_of_le hs hstx) (lt_of_lt_of_le hs hsty)
    · exact le_trans ht (mul_self_le_mul_self hs.le hstx)
    · exact le_trans ht (mul_self_le_mul_self hs.le hsty)
  rw [List.append_nil, hlat, ← htn] at hloop
  rw [genBoreholeConfig_eq_bind, rect_rowPlan x0 y0 W H sp ny hx hy hs hW0.le hH0 hny hny1, Py.ok_bind]
  dsimp only
  rw [hloop, Py.ok_bind, List.reverse_reverse, removeDuplicates, removeDupAux_eq_self _ _ [] (by simp) hsep]

theorem rect_lattice_count (x0 y0 W H sp tol : Rat) (hx : 0 ≤ x0) (hy : 0 ≤ y0) (hs : 0 < sp)
    (hW : sp ≤ W) (hH : sp ≤ H) (ht0 : 0 ≤ tol) (htW : tol < W)
    (hdt : Gen.RowWise.distributeTol ≤ sp) :
    ∃ l, genBoreholeConfig (rectPoly x0 y0 W H) sp sp 1 0 tol = .ok l ∧
      l.length = ((W / sp).floor.toNat + 1) * ((H / sp).floor.toNat + 1) := by
  refine ⟨_, rect_lattice x0 y0 W H sp tol hx hy hs hW hH ht0 htW hdt, ?_⟩
  simp [lattice, List.length_flatMap, Nat.mul_comm]

/-- non-vacuity -/
example : genBoreholeConfig (rectPoly 0 0 60 30) 7 7 1 0 (1/100000) = .ok (lattice 0 0 60 30 8 4) := by
  have h := rect_lattice 0 0 60 30 7 (1/100000) le_rfl le_rfl (by norm_num) (by norm_num) (by norm_num)
    (by norm_num) (by norm_num) (by unfold Gen.RowWise.distributeTol; norm_num)
  rwa [floor_toNat_eq (60 / 7) 8 (by norm_num) (by norm_num), floor_toNat_eq (30 / 7) 4 (by norm_num) (by norm_num)] at h

/-! ### translation equivariance, one lemma per function of the model -/

def shift (t p : Pt) : Pt := (p.1 + t.1, p.2 + t.2)

def shiftSeg (t : Pt) (sg : Seg) : Seg := ⟨sg.x1 + t.1, sg.y1 + t.2, sg.x2 + t.1, sg.y2 + t.2⟩

theorem tr_shift_inj (t p q : Pt) : shift t p = shift t q ↔ p = q := by
  simp only [shift, add_left_inj, Prod.ext_iff]

theorem tr_proj_shift (c s : Rat) (t p : Pt) : proj c s (shift t p) = proj c s p + proj c s t := by
  simp only [proj, shift]; ring

theorem tr_rowDist (c s : Rat) (t p q : Pt) : rowDist c s (shift t p) (shift t q) = rowDist c s p q := by
  simp only [rowDist, tr_proj_shift, add_sub_add_right_eq_sub]

theorem tr_along (c s : Rat) (t p : Pt) (a : Rat) : along c s (shift t p) a = shift t (along c s p a) := by
  simp only [along, shift, add_right_comm]

theorem tr_mid (t p q : Pt) : mid (shift t p) (shift t q) = shift t (mid p q) := by
  simp only [mid, shift, Prod.mk.injEq]
  constructor <;> ring

theorem tr_pushNew (t : Pt) (acc : List Pt) (p : Pt) :
    pushNew (acc.map (shift t)) (shift t p) = (pushNew acc p).map (shift t) := by
  cases acc with
  | nil => rfl
  | cons q qs =>
    simp only [List.map_cons, pushNew, tr_shift_inj]
    split_ifs <;> rfl

theorem tr_slope (t : Pt) (x1 y1 x2 y2 : Rat) :
    slope (x1 + t.1) (y1 + t.2) (x2 + t.1) (y2 + t.2)
      = (slope x1 y1 x2 y2).map (fun ac => (ac.1, ac.2 + t.2 - t.1 * ac.1)) := by
  simp only [slope, add_sub_add_right_eq_sub]
  split_ifs
  · rfl
  · simp only [Option.map_some]
    congr 2
    ring

theorem shiftSeg_mk (t p q : Pt) :
    (⟨(shift t p).1, (shift t p).2, (shift t q).1, (shift t q).2⟩ : Seg) = shiftSeg t ⟨p.1, p.2, q.1, q.2⟩ := rfl

theorem tr_vectorIntersect (t : Pt) (l1 l2 : Seg) (tol : Rat) (htol : 0 ≤ tol) :
    vectorIntersect (shiftSeg t l1) (shiftSeg t l2) tol
      = (vectorIntersect l1 l2 tol).map (shift t) := by
  simp only [vectorIntersect, shiftSeg, tr_slope, add_sub_add_right_eq_sub]
  rcases slope l1.x1 l1.y1 l1.x2 l1.y2 with _ | ⟨a1, c1⟩
  · rcases slope l2.x1 l2.y1 l2.x2 l2.y2 with _ | ⟨a2, c2⟩
    · -- both vertical
      simp only [Option.map]
      split_ifs
      · rfl
      · rfl
    · simp only [Option.map, List.map, shift]
      congr 2
      ring
  · rcases slope l2.x1 l2.y1 l2.x2 l2.y2 with _ | ⟨a2, c2⟩
    · simp only [Option.map, List.map, shift]
      congr 2
      ring
    · simp only [Option.map]
      split_ifs with hg
      · rfl
      · -- the lines are not parallel, so the abscissa of the intersection is a genuine quotient
        have hne : a1 - a2 ≠ 0 := fun h0 => hg (by rw [h0]; simpa [ratAbs] using htol)
        simp only [List.map, shift]
        congr 2
        · field_simp; ring
        · field_simp; ring

theorem tr_inBox (t : Pt) (tol : Rat) (c1 c2 r : Pt) :
    inBox tol (shift t c1) (shift t c2) (shift t r) = inBox tol c1 c2 r := by
  simp only [inBox, shift, ratMax_eq_max, ratMin_eq_min, max_add_add_right, min_add_add_right,
    add_sub_add_right_eq_sub]

theorem tr_edgeHit (t : Pt) (row : Seg) (tol : Rat) (htol : 0 ≤ tol) (e : Pt × Pt) :
    edgeHit (shiftSeg t row) tol (Prod.map (shift t) (shift t) e)
      = (edgeHit row tol e).map (shift t) := by
  rw [edgeHit, edgeHit, Prod.map_fst, Prod.map_snd, shiftSeg_mk, tr_vectorIntersect t _ row tol htol]
  match vectorIntersect ⟨e.1.1, e.1.2, e.2.1, e.2.2⟩ row tol with
  | [] => rfl
  | [r] =>
    simp only [List.map, tr_inBox]
    split_ifs
    · rfl
    · rfl
  | _ :: _ :: _ => rfl

theorem tr_edges (f : Pt → Pt) (poly : List Pt) :
    edges (poly.map f) = (edges poly).map (Prod.map f f) := by
  unfold edges
  rw [← List.map_drop, ← List.map_take, ← List.map_append, List.zip_map]

theorem tr_rawIntersections (t : Pt) (poly : List Pt) (row : Seg) (tol : Rat) (htol : 0 ≤ tol) :
    rawIntersections (poly.map (shift t)) (shiftSeg t row) tol
      = (rawIntersections poly row tol).map (shift t) := by
  simp only [rawIntersections, tr_edges, List.flatMap_map, List.map_flatMap, tr_edgeHit t row tol htol]

theorem tr_keyLe (c s : Rat) (t p q : Pt) : keyLe c s (shift t p) (shift t q) = keyLe c s p q := by
  simp only [keyLe, tr_proj_shift, add_lt_add_iff_right, add_left_inj]
  simp only [shift, add_lt_add_iff_right, add_left_inj, add_le_add_iff_right]

theorem tr_lineIntersect (t : Pt) (poly : List Pt) (row : Seg) (c s tol : Rat) (htol : 0 ≤ tol) :
    lineIntersect (poly.map (shift t)) (shiftSeg t row) c s tol
      = (lineIntersect poly row c s tol).map (shift t) := by
  rw [lineIntersect, lineIntersect, tr_rawIntersections t poly row tol htol, sortIntersections_eq, sortIntersections_eq]
  exact (List.map_insertionSort _ _ _ _ fun a _ b _ => by rw [tr_keyLe]).symm

theorem tr_listMax (d x : Rat) (l : List Rat) : listMax ((x :: l).map (· + d)) = listMax (x :: l) + d := by
  simp only [List.map_cons, listMax, List.foldl_map, ratMax_eq_max]
  exact List.foldl_hom (· + d) fun a y => max_add_add_right a y d

theorem tr_listMin (d x : Rat) (l : List Rat) : listMin ((x :: l).map (· + d)) = listMin (x :: l) + d := by
  simp only [List.map_cons, listMin, List.foldl_map, ratMin_eq_min]
  exact List.foldl_hom (· + d) fun a y => min_add_add_right a y d

theorem tr_pointIntersect (t : Pt) (poly : List Pt) (p : Pt) :
    pointIntersect (poly.map (shift t)) (shift t p) = pointIntersect poly p := by
  rcases poly with _ | ⟨v, vs⟩
  · simp [pointIntersect, listMax, listMin, lineIntersect, rawIntersections, edges, sortIntersections]
  have hx : ((v :: vs).map (shift t)).map (·.1) = (v.1 :: vs.map (·.1)).map (· + t.1) := by
    simp only [List.map_map, List.map_cons]; rfl
  have hy : ((v :: vs).map (shift t)).map (·.2) = (v.2 :: vs.map (·.2)).map (· + t.2) := by
    simp only [List.map_map, List.map_cons]; rfl
  have hseg : ∀ m : Rat, (⟨m + t.1 - Gen.RowWise.farShift, (shift t p).2,
      m + t.1 - Gen.RowWise.farShift + Gen.RowWise.farStep, (shift t p).2⟩ : Seg)
      = shiftSeg t ⟨m - Gen.RowWise.farShift, p.2, m - Gen.RowWise.farShift + Gen.RowWise.farStep, p.2⟩ := by
    intro m
    simp only [shiftSeg, shift]
    congr 1 <;> ring
  have htol : 0 ≤ Gen.RowWise.lineIntersectTol := by unfold Gen.RowWise.lineIntersectTol; norm_num
  have hp1 : ((fun q : Pt => decide (q.1 ≤ (shift t p).1)) ∘ shift t) = (fun q : Pt => decide (q.1 ≤ p.1)) := by
    funext q; simp only [Function.comp, shift, add_le_add_iff_right]
  have hp2 : ((fun q : Pt => !((v :: vs).map (shift t)).contains q) ∘ shift t)
      = (fun q : Pt => !(v :: vs).contains q) := by
    funext q
    simp only [Function.comp, List.contains_eq_mem,
      List.mem_map_of_injective fun a b h => (tr_shift_inj t a b).mp h]
  unfold pointIntersect
  simp only [hx, hy, tr_listMax, tr_listMin, hseg, tr_lineIntersect t (v :: vs) _ 1 0 _ htol,
    List.filter_map, List.length_map, hp1, hp2]
  simp only [List.map_cons, shift, gt_iff_lt, add_lt_add_iff_right]

theorem tr_distLoop (c s tol step : Rat) (t x2 : Pt) (fuel : Nat) (cur : Pt) (acc : List Pt) :
    distLoop c s tol step (shift t x2) fuel (shift t cur) (acc.map (shift t))
      = (distLoop c s tol step x2 fuel cur acc).map (List.map (shift t)) := by
  induction fuel generalizing cur acc with
  | zero => rfl
  | succ n ih =>
    simp only [distLoop, tr_rowDist]
    split_ifs
    · rw [tr_along, tr_pushNew, ih]
    · rfl

theorem tr_distribute (c s spacing : Rat) (t x1 x2 : Pt) (acc : List Pt) :
    distribute c s spacing (shift t x1) (shift t x2) (acc.map (shift t))
      = (distribute c s spacing x1 x2 acc).map (List.map (shift t)) := by
  simp only [distribute, tr_rowDist, tr_mid, tr_pushNew, tr_distLoop, apply_ite (Except.map _)]
  congr 3
  match distLoop c s Gen.RowWise.distributeTol _ x2 _ x1 acc with
  | none => rfl
  | some [] => rfl
  | some (q :: acc') =>
    simp only [Option.map, List.map_cons, tr_shift_inj]
    split_ifs <;> rfl

theorem tr_processRows (c s space : Rat) (t sx ex : Pt) (acc : List Pt) :
    processRows c s space (shift t sx) (shift t ex) (acc.map (shift t))
      = (processRows c s space sx ex acc).map (List.map (shift t)) := by
  simp only [processRows, tr_rowDist, tr_mid, tr_pushNew, tr_distribute]
  split_ifs <;> rfl

theorem tr_close (tol : Rat) (t p q : Pt) : close tol (shift t p) (shift t q) = close tol p q := by
  simp only [close, shift, add_sub_add_right_eq_sub]

theorem tr_dedupe (tol : Rat) (t : Pt) (l : List Pt) :
    dedupe tol (l.map (shift t)) = (dedupe tol l).map (shift t) := by
  match l with
  | [] => rfl
  | [p] => rfl
  | p :: q :: rest =>
    have hp : ((fun r : Pt => !close tol (shift t p) r) ∘ shift t) = (fun r : Pt => !close tol p r) := by
      funext r; simp only [Function.comp, tr_close]
    simp only [List.map_cons, dedupe, tr_close]
    split_ifs
    · rw [← List.map_cons, List.filter_map, hp]; rfl
    · rfl

theorem tr_evenSeg (c s space : Rat) (t : Pt) (prev : Option Pt) (p q : Pt) :
    evenSeg c s space (prev.map (shift t)) (shift t p) (shift t q)
      = Prod.map (shift t) (shift t) (evenSeg c s space prev p q) := by
  cases prev <;> simp only [Option.map, evenSeg, tr_rowDist, tr_along] <;> split_ifs <;> rfl

theorem tr_evenLoop (c s space : Rat) (t : Pt) : ∀ (l : List Pt) (prev : Option Pt) (acc : List Pt),
    evenLoop c s space (prev.map (shift t)) (l.map (shift t)) (acc.map (shift t))
      = (evenLoop c s space prev l acc).map (List.map (shift t))
  | [], _, _ => by simp only [List.map_nil, evenLoop]; rfl
  | [_], _, _ => by simp only [List.map_cons, List.map_nil, evenLoop]; rfl
  | p :: q :: rest, prev, acc => by
    simp only [List.map_cons, evenLoop_cons, tr_evenSeg, Prod.map_fst, Prod.map_snd, tr_processRows]
    cases processRows c s space (evenSeg c s space prev p q).1 (evenSeg c s space prev p q).2 acc with
    | error e => rfl
    | ok acc' => exact tr_evenLoop c s space t rest (some q) acc'

theorem tr_oddLoop (poly : List Pt) (c s space : Rat) (t : Pt) : ∀ (l acc : List Pt),
    oddLoop (poly.map (shift t)) c s space (l.map (shift t)) (acc.map (shift t))
      = (oddLoop poly c s space l acc).map (List.map (shift t))
  | [], _ => by simp only [List.map_nil, oddLoop]; rfl
  | [_], _ => by simp only [List.map_cons, List.map_nil, oddLoop]; rfl
  | p :: q :: rest, acc => by
    have ih := tr_oddLoop poly c s space t (q :: rest)
    simp only [List.map_cons, oddLoop, tr_mid, tr_pointIntersect, tr_processRows]
    split_ifs
    · cases processRows c s space p q acc with
      | error e => rfl
      | ok acc' => exact ih acc'
    · exact ih acc

theorem tr_rowStep (poly : List Pt) (c s tol space : Rat) (htol : 0 ≤ tol) (t : Pt) (row : Seg)
    (acc : List Pt) :
    rowStep (poly.map (shift t)) c s tol space (shiftSeg t row) (acc.map (shift t))
      = (rowStep poly c s tol space row acc).map (List.map (shift t)) := by
  unfold rowStep
  simp only [tr_lineIntersect t poly row c s tol htol, tr_dedupe]
  generalize dedupe tol (lineIntersect poly row c s tol) = f
  have hev := tr_evenLoop c s space t f none acc
  have hodd := tr_oddLoop poly c s space t f acc
  match f with
  | [] => exact hev
  | [p] => simp only [List.map_cons, List.map_nil, List.length_cons, List.length_nil, tr_pushNew]; rfl
  | [p, q] =>
    simp only [List.map_cons, List.map_nil, List.length_cons, List.length_nil, Nat.reduceAdd, Nat.reduceMod,
      ↓reduceIte, tr_rowDist] at hev ⊢
    split_ifs
    · rfl
    · exact hev
  | p :: q :: r :: rest =>
    simp only [List.map_cons, List.length_cons, List.length_map] at hev hodd ⊢
    split_ifs
    · exact hev
    · exact hodd

theorem tr_rowSeg (t lowest : Pt) (rs0 rs1 : Rat) (k : Nat) :
    rowSeg (shift t lowest) rs0 rs1 k = shiftSeg t (rowSeg lowest rs0 rs1 k) := by
  simp only [rowSeg, shift]
  split_ifs <;> simp only [shiftSeg, add_right_comm]

theorem tr_rowsLoop (poly : List Pt) (c s tol space : Rat) (htol : 0 ≤ tol) (t lowest : Pt)
    (rs0 rs1 : Rat) (ks : List Nat) (acc : List Pt) :
    rowsLoop (poly.map (shift t)) c s tol space (shift t lowest) rs0 rs1 ks (acc.map (shift t))
      = (rowsLoop poly c s tol space lowest rs0 rs1 ks acc).map (List.map (shift t)) := by
  induction ks generalizing acc with
  | nil => rfl
  | cons k ks ih =>
    simp only [rowsLoop, tr_rowSeg, tr_rowStep poly c s tol space htol]
    cases rowStep poly c s tol space (rowSeg lowest rs0 rs1 k) acc with
    | error e => rfl
    | ok acc' => exact ih acc'

theorem tr_sqDist (t p q : Pt) : sqDist (shift t p) (shift t q) = sqDist p q := by
  simp only [sqDist, shift, add_sub_add_right_eq_sub]

theorem tr_removeDuplicates (space : Rat) (t : Pt) (l : List Pt) :
    removeDuplicates space (l.map (shift t)) = (removeDuplicates space l).map (shift t) := by
  have key : ∀ (tolSq : Rat) (l seen : List Pt), removeDupAux tolSq (seen.map (shift t)) (l.map (shift t))
      = (removeDupAux tolSq seen l).map (shift t) := by
    intro tolSq l
    induction l with
    | nil => intro seen; rfl
    | cons p ps ih =>
      intro seen
      have h := ih (p :: seen)
      rw [List.map_cons] at h
      simp only [List.map_cons, removeDupAux, List.any_map, Function.comp_def, tr_sqDist, h]
      split_ifs <;> rfl
  exact key _ l []

def shiftExt (d : Rat) (t : Pt) (e : Rat × Pt) : Rat × Pt := (e.1 + d, shift t e.2)

theorem tr_extremes (c s d : Rat) (t : Pt) (l : List Pt)
    (hl : ∀ v ∈ l, ypOf c s (shift t v) = ypOf c s v + d) (lo hi : Option (Rat × Pt)) :
    extremes c s (l.map (shift t)) (lo.map (shiftExt d t)) (hi.map (shiftExt d t))
      = ((extremes c s l lo hi).1.map (shiftExt d t), (extremes c s l lo hi).2.map (shiftExt d t)) := by
  induction l generalizing lo hi with
  | nil => rfl
  | cons v vs ih =>
    simp only [List.map_cons, extremes, hl v List.mem_cons_self]
    rw [← ih fun w hw => hl w (List.mem_cons_of_mem _ hw)]
    congr 1
    · cases lo with
      | none => rfl
      | some ll => simp only [Option.map_some, shiftExt, add_lt_add_iff_right]; split_ifs <;> rfl
    · cases hi with
      | none => rfl
      | some hh => simp only [Option.map_some, shiftExt, gt_iff_lt, add_lt_add_iff_right]; split_ifs <;> rfl

theorem tr_rowPlan (t : Pt) (poly : List Pt) (c s ySpace : Rat)
    (hpos : ∀ v ∈ poly, 0 ≤ v.1 ∧ 0 ≤ v.2)
    (hpos' : ∀ v ∈ poly, 0 ≤ v.1 + t.1 ∧ 0 ≤ v.2 + t.2) :
    rowPlan (poly.map (shift t)) c s ySpace
      = (rowPlan poly c s ySpace).map (fun r => (r.1, shift t r.2.1, r.2.2)) := by
  -- `yp` is `y c − x s` only for `x ≥ 0`, `y ≥ 0` (it changes sign with `x`): hence both hypotheses
  have hl : ∀ v ∈ poly, ypOf c s (shift t v) = ypOf c s v + (t.2 * c - t.1 * s) := fun v hv => by
    rw [ypOf_of_nonneg c s v (hpos v hv).1 (hpos v hv).2, ypOf_of_nonneg c s (shift t v) (hpos' v hv).1 (hpos' v hv).2]
    simp only [shift]; ring
  have h := tr_extremes c s (t.2 * c - t.1 * s) t poly hl none none
  unfold rowPlan
  rw [Option.map_none] at h
  rw [h]
  rcases extremes c s poly none none with ⟨_ | ⟨l, lv⟩, _ | ⟨h', hv⟩⟩
  · rfl
  · rfl
  · rfl
  · -- both extremes found: `hi − lo` is unchanged, `lowest` is translated
    simp only [Option.map_some, shiftExt, add_sub_add_right_eq_sub, apply_ite (Except.map _)]
    rfl

def shiftBest (t : Pt) (b : Nat × Option (Nat × List Pt)) : Nat × Option (Nat × List Pt) :=
  (b.1, b.2.map (fun ih => (ih.1, ih.2.map (shift t))))

theorem tr_sweepLoop (t : Pt) (gen gen' : Rat × Rat → Py (List Pt))
    (hg : ∀ r, gen' r = (gen r).map (List.map (shift t)))
    (rots : List (Rat × Rat)) (idx : Nat) (best : Nat × Option (Nat × List Pt)) :
    sweepLoop gen' rots idx (shiftBest t best) = (sweepLoop gen rots idx best).map (shiftBest t) := by
  induction rots generalizing idx best with
  | nil => rfl
  | cons r rs ih =>
    simp only [sweepLoop, hg]
    cases gen r with
    | error e => rfl
    | ok hole =>
      have hstep : sweepStep (shiftBest t best) idx (hole.map (shift t)) = shiftBest t (sweepStep best idx hole) := by
        simp only [sweepStep, List.length_map, shiftBest]
        split_ifs <;> rfl
      simp only [Except.map, hstep]
      exact ih _ _

/- The last two steps, for `genBoreholeConfig` and `fieldOptimizationFr`, are `translate_equivariant` and
   `sweep_translate_equivariant` of Props/C14.lean. -/

end GHEVerif.RowWise
