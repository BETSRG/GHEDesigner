/- The candidate-list generators of domains.py at `R = id`: per generator an equation for positive inputs or a
   membership form of its loop, from which `Good` (on the land, `b_min`-separated) and the sorted counts are read off;
   which inputs make the bi-zoned generator raise; `rectangular` under a rounding `R` that takes the same branches. -/
import GHEVerif.Model.Domains
import GHEVerif.Lemmas.Coords

namespace GHEVerif.Domains
open GHEVerif GHEVerif.Coords

/-! ### `Good`; long side first -/

@[simp] theorem length_trIf (tr : Bool) (f : Field) : (trIf tr f).length = f.length := by
  cases tr <;> simp [trIf]

/-- `f` is `g` transposed back, `g` on the `L1 × L2` land (long side first) and `d`-separated. -/
def Good (L1 L2 d : Rat) (tr : Bool) (f : Field) : Prop :=
  ∃ g, f = trIf tr g ∧ InLand L1 L2 g ∧ Sep d g

theorem good_rectangle {L1 L2 d sx sy : Rat} {tr : Bool} {nx ny : Int} (hd : 0 ≤ d) (hx : d ≤ sx) (hy : d ≤ sy)
    (h1 : ((nx : Rat) - 1) * sx ≤ L1) (h2 : ((ny : Rat) - 1) * sy ≤ L2) :
    Good L1 L2 d tr (trIf tr (rectangle id nx ny sx sy)) :=
  ⟨_, rfl, inLand_rectangle (le_trans hd hx) (le_trans hd hy) h1 h2, sep_rectangle hd hx hy⟩

theorem pos_ite {c : Prop} [Decidable c] {a b : Rat} (ha : 0 < a) (hb : 0 < b) : 0 < if c then a else b := by
  split <;> assumption

/-- `length_1`, `length_2`, `transpose` of domains.py.  The model writes the three `if Lx ≥ Ly …` out in every
    generator; `rectangular_def`, `biRectangleNested_def`, `biRectangleZonedNested_eq_core` (`rfl`) bridge. -/
def long (Lx Ly : Rat) : Rat := if Lx ≥ Ly then Lx else Ly
def short (Lx Ly : Rat) : Rat := if Lx ≥ Ly then Ly else Lx
def trOf (Lx Ly : Rat) : Bool := if Lx ≥ Ly then false else true

theorem long_pos {Lx Ly : Rat} (hx : 0 < Lx) (hy : 0 < Ly) : 0 < long Lx Ly := pos_ite hx hy
theorem short_pos {Lx Ly : Rat} (hx : 0 < Lx) (hy : 0 < Ly) : 0 < short Lx Ly := pos_ite hy hx
theorem short_le_long (Lx Ly : Rat) : short Lx Ly ≤ long Lx Ly := by
  unfold short long; split
  · assumption
  · linarith

theorem Good.final {Lx Ly d : Rat} {f : Field}
    (h : Good (long Lx Ly) (short Lx Ly) d (trOf Lx Ly) f) :
    InLand Lx Ly f ∧ Sep d f := by
  obtain ⟨g, rfl, h1, h2⟩ := h
  by_cases c : Lx ≥ Ly
  · simp only [long, short, trOf, c, if_true] at h1 ⊢
    exact ⟨h1, h2⟩
  · simp only [long, short, trOf, c, if_false] at h1 ⊢
    exact ⟨inLand_transpose h1, sep_transpose h2⟩

/-! ### counts and spacings -/

theorem cast_sub_one_pos {n : Int} (hn : 2 ≤ n) : (0 : Rat) < (n : Rat) - 1 := by
  have : (2 : Rat) ≤ (n : Rat) := by exact_mod_cast hn
  linarith

theorem le_nHigh {L bmin : Rat} (hb : 0 < bmin) {n : Int} (h : n ≤ nHigh id L bmin) :
    ((n : Rat) - 1) * bmin ≤ L := by
  have := Rat.le_floor_iff.mp (show n ≤ (L / bmin + 1).floor from h)
  exact (le_div_iff₀ hb).mp (sub_le_iff_le_add.mpr this)

theorem two_le_nLow {L bmax : Rat} (hL : 0 < L) (hb : 0 < bmax) : 2 ≤ nLow id L bmax := by
  show (1 : Int) < (L / bmax + 1).ceil
  rw [Rat.lt_ceil_iff]
  have := div_pos hL hb
  linarith

/-- `n ≥ ⌈L / b_max + 1⌉ ⇒ L / (n - 1) ≤ b_max` of DESIGN.md §4 C03; nothing below needs it. -/
theorem nLow_le {L bmax : Rat} (hL : 0 < L) (hb : 0 < bmax) {n : Int} (h : nLow id L bmax ≤ n) :
    L / ((n : Rat) - 1) ≤ bmax := by
  have := Rat.ceil_le_iff.mp (show (L / bmax + 1).ceil ≤ n from h)
  rw [div_le_iff₀ (cast_sub_one_pos (le_trans (two_le_nLow hL hb) h)), mul_comm]
  exact (div_le_iff₀ hb).mp (le_sub_iff_add_le.mpr this)

theorem span_mono {k n : Int} {s L : Rat} (hk : k ≤ n) (hs : 0 ≤ s) (h : ((n : Rat) - 1) * s ≤ L) :
    ((k : Rat) - 1) * s ≤ L := by
  have : (k : Rat) ≤ (n : Rat) := by exact_mod_cast hk
  exact le_trans (mul_le_mul_of_nonneg_right (by linarith) hs) h

theorem spacingOf_id (L : Rat) (n : Int) : spacingOf id L n = L / ((n : Rat) - 1) := by simp [spacingOf, iq]

theorem spacingOf_pos {L : Rat} (hL : 0 < L) {n : Int} (hn : 2 ≤ n) : 0 < spacingOf id L n := by
  rw [spacingOf_id]
  exact div_pos hL (cast_sub_one_pos hn)

theorem spacingOf_spec {L bmin : Rat} {n : Int} (hn : 2 ≤ n) (hle : ((n : Rat) - 1) * bmin ≤ L) :
    bmin ≤ spacingOf id L n ∧ ((n : Rat) - 1) * spacingOf id L n = L := by
  have hn1 := cast_sub_one_pos hn
  rw [spacingOf_id]
  exact ⟨(le_div_iff₀ hn1).mpr (by rw [mul_comm]; exact hle), mul_div_cancel₀ _ hn1.ne'⟩

/-! ### the `_iter == 0` block -/

theorem biPre_good {L1 L2 d s1 s2 : Rat} {tr : Bool} {n1 n2 : Int} (hd : 0 ≤ d) (h1 : d ≤ s1) (h2 : d ≤ s2)
    (hL2 : 0 ≤ L2) (hW : ((n1 : Rat) - 1) * s1 ≤ L1) (hH : ((n2 : Rat) - 1) * s2 ≤ L2) :
    ∀ f ∈ biPre id tr n1 n2 s1 s2, Good L1 L2 d tr f := by
  intro f hf
  simp only [biPre, List.mem_append, List.mem_map, mem_pyRange] at hf
  rcases hf with ⟨i, hi, rfl⟩ | ⟨j, hj, rfl⟩
  · exact good_rectangle hd h1 h2 (span_mono (by omega) (le_trans hd h1) hW) (by simpa using hL2)
  · exact good_rectangle hd h1 h2 hW (span_mono (by omega) (le_trans hd h2) hH)

theorem biPre_sizes_sorted (R : Rat → Rat) (tr : Bool) (m k : Int) (s1 s2 : Rat) (hm : 1 ≤ m) (hk : 1 ≤ k) :
    ((biPre R tr m k s1 s2).map List.length).Pairwise (· ≤ ·) ∧
    ∀ x ∈ (biPre R tr m k s1 s2).map List.length, x ≤ m.toNat * k.toNat := by
  simp only [biPre, List.map_append, List.map_map, List.pairwise_append, List.pairwise_map, List.mem_append,
    List.mem_map, mem_pyRange, Function.comp, length_trIf, length_rectangle]
  refine ⟨⟨?_, ?_, ?_⟩, ?_⟩
  · exact (pyRange_pairwise_lt 1 m).imp fun h => Nat.mul_le_mul (by omega) (le_refl _)
  · exact (pyRange_pairwise_lt 1 k).imp fun h => Nat.mul_le_mul_left _ (by omega)
  · rintro _ ⟨i, hi, rfl⟩ _ ⟨j, hj, rfl⟩
    exact Nat.mul_le_mul (by omega) (by omega)
  · rintro _ (⟨i, hi, rfl⟩ | ⟨j, hj, rfl⟩) <;> exact Nat.mul_le_mul (by omega) (by omega)

/-! ### `rectangular` -/

theorem rectangular_def (R : Rat → Rat) (Lx Ly bmin bmax : Rat) :
    rectangular R Lx Ly bmin bmax =
      if bmin = 0 ∨ bmax = 0 then .error .zeroDiv else
      if pyRange (nLow R (long Lx Ly) bmax) (nHigh R (long Lx Ly) bmin + 1) ≠ [] ∧
          ((1 : Int) ∈ pyRange (nLow R (long Lx Ly) bmax) (nHigh R (long Lx Ly) bmin + 1) ∨ long Lx Ly = 0)
      then .error .zeroDiv else
      .ok (rectLoop R (long Lx Ly) (short Lx Ly) (trOf Lx Ly) (nLow R (long Lx Ly) bmax)
            (pyRange (nLow R (long Lx Ly) bmax) (nHigh R (long Lx Ly) bmin + 1)) 1 true) := rfl

theorem rectangular_eqR (R : Rat → Rat) {Lx Ly bmin bmax : Rat} (hb : 0 < bmin) (hbm : 0 < bmax) (hLx : 0 < Lx) (hLy : 0 < Ly)
    (h2 : 2 ≤ nLow R (long Lx Ly) bmax) :
    rectangular R Lx Ly bmin bmax =
      .ok (rectLoop R (long Lx Ly) (short Lx Ly) (trOf Lx Ly) (nLow R (long Lx Ly) bmax)
            (pyRange (nLow R (long Lx Ly) bmax) (nHigh R (long Lx Ly) bmin + 1)) 1 true) := by
  rw [rectangular_def, if_neg (not_or.mpr ⟨hb.ne', hbm.ne'⟩), if_neg]
  rintro ⟨-, h | h⟩
  · rw [mem_pyRange] at h; omega
  · exact (long_pos hLx hLy).ne' h

theorem rectangular_eq {Lx Ly bmin bmax : Rat} (hb : 0 < bmin) (hbm : 0 < bmax) (hLx : 0 < Lx) (hLy : 0 < Ly) :
    rectangular id Lx Ly bmin bmax =
      .ok (rectLoop id (long Lx Ly) (short Lx Ly) (trOf Lx Ly) (nLow id (long Lx Ly) bmax)
            (pyRange (nLow id (long Lx Ly) bmax) (nHigh id (long Lx Ly) bmin + 1)) 1 true) :=
  rectangular_eqR id hb hbm hLx hLy (two_le_nLow (long_pos hLx hLy) hbm)

/-- row count of `rectangular` for `n` columns -/
def rectN2 (L1 L2 : Rat) (n : Int) : Int := (rectN2Arg id L1 L2 n).floor

theorem rectN2Arg_eq (L1 L2 : Rat) (n : Int) : rectN2Arg id L1 L2 n = L2 * ((n : Rat) - 1) / L1 + 1 := by
  simp only [rectN2Arg, spacingOf, iq, id_eq]
  rw [div_div_eq_mul_div]; push_cast; ring

/-- A sublist, not the whole list: the loop skips a count whose row count repeats the previous one. -/
theorem rectLoop_sublist {R : Rat → Rat} {L1 L2 : Rat} {tr : Bool} {nMin : Int} (ns : List Int) (n2old : Int) :
    (rectLoop R L1 L2 tr nMin ns n2old false).Sublist
      (ns.map fun n => trIf tr (rectangle R n (rectN2Arg R L1 L2 n).floor (spacingOf R L1 n) (spacingOf R L1 n))) := by
  induction ns generalizing n2old with
  | nil => simp [rectLoop]
  | cons n rest ih =>
    simp only [rectLoop, Bool.false_eq_true, if_false, List.nil_append, List.map_cons]
    split
    · exact (ih _).cons _
    · exact (ih _).cons_cons _

theorem rectLoop_first (R : Rat → Rat) (L1 L2 : Rat) (tr : Bool) (nMin n : Int) (rest : List Int) (n2old : Int) :
    rectLoop R L1 L2 tr nMin (n :: rest) n2old true =
      biPre R tr nMin (rectN2Arg R L1 L2 n).floor (spacingOf R L1 n) (spacingOf R L1 n)
        ++ rectLoop R L1 L2 tr nMin (n :: rest) n2old false := by
  simp [rectLoop, rectPre, biPre]

theorem rectN2_span {L1 L2 bmin : Rat} (hb : 0 < bmin) {n : Int} (hn : 2 ≤ n) (hle : ((n : Rat) - 1) * bmin ≤ L1) :
    ((rectN2 L1 L2 n : Rat) - 1) * spacingOf id L1 n ≤ L2 := by
  have hs := lt_of_lt_of_le hb (spacingOf_spec hn hle).1
  rw [← le_div_iff₀ hs]
  have := Rat.floor_le (rectN2Arg id L1 L2 n)
  simp only [rectN2, rectN2Arg, id_eq] at this ⊢
  linarith

theorem rectLoop_good {L1 L2 bmin : Rat} {tr : Bool} {nMin : Int} (hb : 0 < bmin) (hL2 : 0 ≤ L2)
    {ns : List Int} (hns : ∀ n ∈ ns, 2 ≤ n ∧ nMin ≤ n ∧ ((n : Rat) - 1) * bmin ≤ L1)
    {n2old : Int} {first : Bool} :
    ∀ f ∈ rectLoop id L1 L2 tr nMin ns n2old first, Good L1 L2 bmin tr f := by
  have grid : ∀ n ∈ ns, bmin ≤ spacingOf id L1 n ∧ ((n : Rat) - 1) * spacingOf id L1 n ≤ L1 ∧
      ((rectN2 L1 L2 n : Rat) - 1) * spacingOf id L1 n ≤ L2 := fun n hn =>
    ⟨(spacingOf_spec (hns n hn).1 (hns n hn).2.2).1, (spacingOf_spec (hns n hn).1 (hns n hn).2.2).2.le,
      rectN2_span hb (hns n hn).1 (hns n hn).2.2⟩
  have tail : ∀ n2old, ∀ f ∈ rectLoop id L1 L2 tr nMin ns n2old false, Good L1 L2 bmin tr f := by
    intro n2old f hf
    obtain ⟨n, hn, rfl⟩ := List.mem_map.mp ((rectLoop_sublist ns n2old).subset hf)
    obtain ⟨g1, g2, g3⟩ := grid n hn
    exact good_rectangle hb.le g1 g1 g2 g3
  intro f hf
  cases first with
  | false => exact tail _ f hf
  | true =>
    cases ns with
    | nil => simp [rectLoop] at hf
    | cons n rest =>
      rw [rectLoop_first, List.mem_append] at hf
      obtain ⟨g1, g2, g3⟩ := grid n (by simp)
      rcases hf with hf | hf
      · exact biPre_good hb.le g1 g1 hL2 (span_mono (hns n (by simp)).2.1 (le_trans hb.le g1) g2) g3 f hf
      · exact tail _ f hf

theorem rectN2_pos {L1 L2 : Rat} (hL1 : 0 < L1) (hL2 : 0 ≤ L2) {n : Int} (hn : 1 ≤ n) : 1 ≤ rectN2 L1 L2 n := by
  unfold rectN2
  rw [Rat.le_floor_iff, rectN2Arg_eq]
  have : (1 : Rat) ≤ (n : Rat) := by exact_mod_cast hn
  have : 0 ≤ L2 * ((n : Rat) - 1) / L1 := div_nonneg (mul_nonneg hL2 (sub_nonneg.mpr this)) (le_of_lt hL1)
  rw [Int.cast_one]; exact le_add_of_nonneg_left this

theorem rectSize_mono {L1 L2 : Rat} (hL1 : 0 < L1) (hL2 : 0 ≤ L2) {n m : Int} (h : n ≤ m) :
    n.toNat * (rectN2 L1 L2 n).toNat ≤ m.toNat * (rectN2 L1 L2 m).toNat := by
  have : rectN2 L1 L2 n ≤ rectN2 L1 L2 m := by
    unfold rectN2
    rw [rectN2Arg_eq, rectN2Arg_eq]
    have : (n : Rat) ≤ (m : Rat) := by exact_mod_cast h
    refine Int.floor_le_floor (R := Rat) ?_
    gcongr
  exact Nat.mul_le_mul (by omega) (by omega)

theorem rectLoop_sorted_tail {L1 L2 : Rat} (hL1 : 0 < L1) (hL2 : 0 ≤ L2) {tr : Bool} {nMin : Int}
    {ns : List Int} (hasc : ns.Pairwise (· < ·)) {n2old : Int} :
    ((rectLoop id L1 L2 tr nMin ns n2old false).map List.length).Pairwise (· ≤ ·) := by
  refine List.Pairwise.sublist ((rectLoop_sublist ns n2old).map _) ?_
  rw [List.map_map, List.pairwise_map]
  refine hasc.imp fun hnm => ?_
  simp only [Function.comp, length_trIf, length_rectangle]
  exact rectSize_mono hL1 hL2 hnm.le

theorem rectLoop_sorted {L1 L2 : Rat} (hL1 : 0 < L1) (hL2 : 0 ≤ L2) {tr : Bool} {nMin : Int} (hmin : 1 ≤ nMin)
    {rest : List Int} (hasc : (nMin :: rest).Pairwise (· < ·)) :
    ((rectLoop id L1 L2 tr nMin (nMin :: rest) 1 true).map List.length).Pairwise (· ≤ ·) := by
  obtain ⟨p1, p2⟩ := biPre_sizes_sorted id tr nMin (rectN2 L1 L2 nMin) (spacingOf id L1 nMin) (spacingOf id L1 nMin) hmin
    (rectN2_pos hL1 hL2 hmin)
  rw [rectLoop_first, List.map_append, List.pairwise_append]
  refine ⟨p1, rectLoop_sorted_tail hL1 hL2 hasc, fun x hx y hy => le_trans (p2 x hx) ?_⟩
  obtain ⟨f, hf, rfl⟩ := List.mem_map.mp hy
  obtain ⟨n, hn, rfl⟩ := List.mem_map.mp ((rectLoop_sublist _ _).subset hf)
  have hnm : nMin ≤ n := by
    rcases List.mem_cons.mp hn with rfl | h
    · exact le_refl _
    · exact (List.rel_of_pairwise_cons hasc h).le
  simp only [length_trIf, length_rectangle]
  exact rectSize_mono hL1 hL2 hnm

theorem rectangular_spec {Lx Ly bmin bmax : Rat} (hb : 0 < bmin) (hbm : 0 < bmax) (hLx : 0 < Lx) (hLy : 0 < Ly) :
    ∃ fs, rectangular id Lx Ly bmin bmax = .ok fs ∧ (∀ f ∈ fs, InLand Lx Ly f ∧ Sep bmin f) ∧
      (fs.map List.length).Pairwise (· ≤ ·) := by
  have h2 := two_le_nLow (long_pos hLx hLy) hbm
  refine ⟨_, rectangular_eq hb hbm hLx hLy, fun f hf =>
    Good.final (rectLoop_good hb (short_pos hLx hLy).le (fun n hn => ?_) f hf), ?_⟩
  · rw [mem_pyRange] at hn
    exact ⟨by omega, hn.1, le_nHigh hb (by omega)⟩
  · by_cases hlt : nLow id (long Lx Ly) bmax < nHigh id (long Lx Ly) bmin + 1
    · have hasc := pyRange_pairwise_lt (nLow id (long Lx Ly) bmax) (nHigh id (long Lx Ly) bmin + 1)
      rw [pyRange_cons hlt] at hasc ⊢
      exact rectLoop_sorted (long_pos hLx hLy) (short_pos hLx hLy).le (by omega) hasc
    · rw [pyRange_eq_nil.mpr (by omega)]
      simp [rectLoop]

/-! ### `square_and_near_square` -/

/-- The near-square candidate list written out: `k × k`, `k × (k+1)` for `k = 1 … n`. -/
def nsList (n : Nat) (b : Rat) : List Field :=
  (List.range n).flatMap (fun (k : Nat) => [rectangle id ((k : Int) + 1) ((k : Int) + 1) b b,
                                    rectangle id ((k : Int) + 1) ((k : Int) + 1 + 1) b b])

theorem squareAndNearSquare_eq {n : Int} (hn : 1 ≤ n) (b : Rat) :
    squareAndNearSquare id 1 n b = .ok (nsList n.toNat b) := by
  unfold squareAndNearSquare
  rw [if_neg (by omega), if_neg (by omega)]
  congr 1
  unfold nsList pyRange
  rw [List.flatMap_map]
  have : (n + 1 - 1).toNat = n.toNat := by congr 1; omega
  rw [this]
  congr 1
  funext k
  rw [add_comm (1 : Int) (k : Int)]

theorem nearSquareN_spec {length b : Rat} (hb : 0 < b) (hl : 0 ≤ length) :
    1 ≤ nearSquareN id length b ∧ ((nearSquareN id length b : Rat) - 1) * b ≤ length ∧
      length < (nearSquareN id length b : Rat) * b := by
  simp only [nearSquareN, id_eq]
  have h0 : 0 ≤ length / b := div_nonneg hl (le_of_lt hb)
  have h1 := Rat.floor_le (length / b)
  have h2 := Rat.lt_floor_add_one (length / b)
  have h3 : (0 : Int) ≤ (length / b).floor := by rw [Rat.le_floor_iff]; simpa using h0
  refine ⟨by omega, ?_, ?_⟩
  · rw [Int.cast_add, Int.cast_one, add_sub_cancel_right]
    exact (le_div_iff₀ hb).mp h1
  · exact (div_lt_iff₀ hb).mp h2

theorem nearSquareDomain_eq {length b : Rat} (hb : 0 < b) (hl : 0 ≤ length) :
    nearSquareDomain id length b = .ok (nsList (nearSquareN id length b).toNat b) := by
  unfold nearSquareDomain
  rw [if_neg hb.ne']
  exact squareAndNearSquare_eq (nearSquareN_spec hb hl).1 b

theorem nsList_length (n : Nat) (b : Rat) : (nsList n b).length = 2 * n := by
  simp [nsList, List.length_flatMap, Nat.mul_comm]

theorem nsList_succ (n : Nat) (b : Rat) :
    nsList (n + 1) b = nsList n b ++ [rectangle id ((n : Int) + 1) ((n : Int) + 1) b b,
                                      rectangle id ((n : Int) + 1) ((n : Int) + 1 + 1) b b] := by
  simp [nsList, List.range_succ, List.flatMap_append]

theorem nsList_get (n : Nat) (b : Rat) (k : Nat) (hk : k < n) :
    (nsList n b)[2 * k]? = some (rectangle id ((k : Int) + 1) ((k : Int) + 1) b b) ∧
    (nsList n b)[2 * k + 1]? = some (rectangle id ((k : Int) + 1) ((k : Int) + 1 + 1) b b) := by
  induction n with
  | zero => omega
  | succ n ih =>
    rw [nsList_succ]
    by_cases h : k < n
    · have hl := nsList_length n b
      rw [List.getElem?_append_left (by omega), List.getElem?_append_left (by omega)]
      exact ih h
    · have hkn : k = n := by omega
      subst hkn
      have hl := nsList_length k b
      rw [List.getElem?_append_right (by omega), List.getElem?_append_right (by omega)]
      simp [hl]

theorem sep_nsList {n : Nat} {b : Rat} (hb : 0 ≤ b) : ∀ f ∈ nsList n b, Sep b f := by
  intro f hf
  simp only [nsList, List.mem_flatMap, List.mem_range, List.mem_cons, List.not_mem_nil, or_false] at hf
  obtain ⟨k, -, rfl | rfl⟩ := hf
  · exact sep_rectangle hb (le_refl _) (le_refl _)
  · exact sep_rectangle hb (le_refl _) (le_refl _)

theorem nsList_sorted (n : Nat) (b : Rat) : ((nsList n b).map List.length).Pairwise (· ≤ ·) := by
  rw [List.pairwise_map]
  unfold nsList
  rw [List.pairwise_flatMap]
  have e1 : ∀ i : Nat, ((i : Int) + 1).toNat = i + 1 := fun i => by omega
  have e2 : ∀ i : Nat, ((i : Int) + 1 + 1).toNat = i + 2 := fun i => by omega
  -- both candidates of round `i` have at most `(i+1)(i+2)` boreholes, both of a later round `j` at least `(j+1)²`
  have lo : ∀ i : Nat, ∀ x ∈ [rectangle id ((i : Int) + 1) ((i : Int) + 1) b b, rectangle id ((i : Int) + 1) ((i : Int) + 1 + 1) b b],
      (i + 1) * (i + 1) ≤ x.length ∧ x.length ≤ (i + 1) * (i + 2) := by
    intro i x hx
    simp only [List.mem_cons, List.not_mem_nil, or_false] at hx
    rcases hx with rfl | rfl <;> simp only [length_rectangle, e1, e2] <;>
      exact ⟨Nat.mul_le_mul_left _ (by omega), Nat.mul_le_mul_left _ (by omega)⟩
  constructor
  · intro k _
    simp only [List.pairwise_cons, List.mem_singleton, forall_eq, length_rectangle, List.not_mem_nil,
      IsEmpty.forall_iff, implies_true, List.Pairwise.nil, and_true]
    apply Nat.mul_le_mul_left; omega
  · refine List.Pairwise.imp ?_ List.pairwise_lt_range
    intro i j hij x hx y hy
    exact le_trans (lo i x hx).2 (le_trans (Nat.mul_le_mul (by omega) (by omega)) (lo j y hy).1)

/-! ### `bi_rectangular`, `bi_rectangle_nested` -/

theorem roundHalfEven_intCast (k : Int) : roundHalfEven (k : Rat) = k := by
  unfold roundHalfEven
  simp

theorem round9_intCast (k : Int) : round9 id (k : Rat) = (k : Rat) := by
  unfold round9
  have : (k : Rat) * 1000000000 = ((k * 1000000000 : Int) : Rat) := by push_cast; ring
  rw [this, roundHalfEven_intCast]
  simp only [id_eq]
  push_cast
  field_simp

/-- Finding F13: in binary64 this needs the `round(·, 9)` of the code; exact here. -/
theorem biN2_spacingOf {L2 : Rat} (hL2 : 0 < L2) (n2 : Int) :
    biN2 id L2 (spacingOf id L2 n2) = n2 := by
  have e : L2 / spacingOf id L2 n2 = ((n2 - 1 : Int) : Rat) := by
    rw [spacingOf_id, div_div_cancel₀ hL2.ne']; push_cast; rfl
  simp only [biN2, id_eq, e, round9_intCast]
  have : ((n2 - 1 : Int) : Rat) + 1 = ((n2 : Int) : Rat) := by push_cast; ring
  rw [this, Rat.ceil_intCast]

/-- The list `bi_rectangular` returns for the second count `n2` (long side `L1`). -/
def biList (L1 L2 bmin bmax1 : Rat) (tr : Bool) (n2 : Int) : List Field :=
  if pyRange (nLow id L1 bmax1) (nHigh id L1 bmin + 1) = [] then [] else
    biPre id tr (nLow id L1 bmax1) n2 (spacingOf id L1 (nLow id L1 bmax1)) (spacingOf id L2 n2)
    ++ (pyRange (nLow id L1 bmax1) (nHigh id L1 bmin + 1)).map (fun n1 =>
          trIf tr (rectangle id n1 n2 (spacingOf id L1 n1) (spacingOf id L2 n2)))

/-- `bi_rectangular` as `bi_rectangle_nested` calls it. -/
theorem biRectangular_eq {L1 L2 bmin bmax1 : Rat} (tr : Bool) {n2 : Int} (hb : 0 < bmin) (hbm : 0 < bmax1)
    (hL2 : 0 < L2) (hL : L2 ≤ L1) (hn2 : 2 ≤ n2) :
    biRectangular id L1 L2 bmin bmax1 (spacingOf id L2 n2) tr = .ok (biList L1 L2 bmin bmax1 tr n2) := by
  have hL1 : 0 < L1 := lt_of_lt_of_le hL2 hL
  have h2 := two_le_nLow hL1 hbm
  unfold biRectangular biList
  simp only [ge_iff_le, hL, if_true]
  rw [if_neg (not_or.mpr ⟨hb.ne', hbm.ne'⟩)]
  by_cases hns : pyRange (nLow id L1 bmax1) (nHigh id L1 bmin + 1) = []
  · simp [hns]
  · rw [if_neg hns, if_neg (spacingOf_pos hL2 hn2).ne', biN2_spacingOf hL2 n2, if_neg, if_neg hns]
    rintro (h | h)
    · omega
    · rw [mem_pyRange] at h; omega

theorem biRectangleNested_def (R : Rat → Rat) (Lx Ly bmin bmaxx bmaxy : Rat) :
    biRectangleNested R Lx Ly bmin bmaxx bmaxy =
      if bmin = 0 ∨ (if Lx ≥ Ly then bmaxy else bmaxx) = 0 then .error .zeroDiv else
      (pyRange (nLow R (short Lx Ly) (if Lx ≥ Ly then bmaxy else bmaxx)) (nHigh R (short Lx Ly) bmin + 1)).mapM fun n2 =>
        if n2 - 1 = 0 then .error .zeroDiv
        else biRectangular R (long Lx Ly) (short Lx Ly) bmin (if Lx ≥ Ly then bmaxx else bmaxy)
          (spacingOf R (short Lx Ly) n2) (trOf Lx Ly) := rfl

theorem biRectangleNested_eq {Lx Ly bmin bmaxx bmaxy : Rat} (hb : 0 < bmin) (hbx : 0 < bmaxx) (hby : 0 < bmaxy)
    (hLx : 0 < Lx) (hLy : 0 < Ly) :
    biRectangleNested id Lx Ly bmin bmaxx bmaxy =
      .ok ((pyRange (nLow id (short Lx Ly) (if Lx ≥ Ly then bmaxy else bmaxx))
                    (nHigh id (short Lx Ly) bmin + 1)).map
            (biList (long Lx Ly) (short Lx Ly) bmin (if Lx ≥ Ly then bmaxx else bmaxy) (trOf Lx Ly))) := by
  have hb2 : 0 < (if Lx ≥ Ly then bmaxy else bmaxx) := pos_ite hby hbx
  have h2 := two_le_nLow (short_pos hLx hLy) hb2
  rw [biRectangleNested_def, if_neg (not_or.mpr ⟨hb.ne', hb2.ne'⟩)]
  apply Py.mapM_ok
  intro n2 hn2
  rw [mem_pyRange] at hn2
  rw [if_neg (by omega)]
  exact biRectangular_eq _ hb (pos_ite hbx hby) (short_pos hLx hLy) (short_le_long Lx Ly) (by omega)

theorem biList_good {L1 L2 bmin bmax1 : Rat} {tr : Bool} {n2 : Int} (hb : 0 < bmin) (hbm : 0 < bmax1)
    (hL2 : 0 < L2) (hL : L2 ≤ L1) (hn2 : 2 ≤ n2) (hn2le : ((n2 : Rat) - 1) * bmin ≤ L2) :
    ∀ f ∈ biList L1 L2 bmin bmax1 tr n2, Good L1 L2 bmin tr f := by
  have h2 := two_le_nLow (lt_of_lt_of_le hL2 hL) hbm
  obtain ⟨hs2, hq2⟩ := spacingOf_spec hn2 hn2le
  have key : ∀ n1 ∈ pyRange (nLow id L1 bmax1) (nHigh id L1 bmin + 1),
      bmin ≤ spacingOf id L1 n1 ∧ ((n1 : Rat) - 1) * spacingOf id L1 n1 = L1 := fun n1 h1 => by
    rw [mem_pyRange] at h1
    exact spacingOf_spec (by omega) (le_nHigh hb (by omega))
  intro f hf
  unfold biList at hf
  split at hf
  · simp at hf
  · rename_i hne
    have hmin : nLow id L1 bmax1 ∈ pyRange (nLow id L1 bmax1) (nHigh id L1 bmin + 1) := by
      rw [pyRange_eq_nil] at hne; rw [mem_pyRange]; omega
    rcases List.mem_append.mp hf with hf | hf
    · exact biPre_good hb.le (key _ hmin).1 hs2 hL2.le (key _ hmin).2.le hq2.le f hf
    · obtain ⟨n1, hn1, rfl⟩ := List.mem_map.mp hf
      exact good_rectangle hb.le (key _ hn1).1 hs2 (key _ hn1).2.le hq2.le

theorem biList_sorted {L1 L2 bmin bmax1 : Rat} {tr : Bool} {n2 : Int} (h2 : 1 ≤ nLow id L1 bmax1) (hn2 : 1 ≤ n2) :
    ((biList L1 L2 bmin bmax1 tr n2).map List.length).Pairwise (· ≤ ·) := by
  unfold biList
  split
  · simp
  · obtain ⟨p1, p2⟩ := biPre_sizes_sorted id tr (nLow id L1 bmax1) n2 (spacingOf id L1 (nLow id L1 bmax1))
      (spacingOf id L2 n2) h2 hn2
    rw [List.map_append, List.pairwise_append]
    refine ⟨p1, ?_, fun x hx y hy => ?_⟩
    · simp only [List.map_map, List.pairwise_map, Function.comp, length_trIf, length_rectangle]
      exact (pyRange_pairwise_lt _ _).imp fun h => Nat.mul_le_mul_right _ (by omega)
    · simp only [List.map_map, List.mem_map, Function.comp, length_trIf, length_rectangle, mem_pyRange] at hy
      obtain ⟨n1, hn1, rfl⟩ := hy
      exact le_trans (p2 x hx) (Nat.mul_le_mul_right _ (by omega))

theorem biRectangleNested_spec {Lx Ly bmin bmaxx bmaxy : Rat} (hb : 0 < bmin) (hbx : 0 < bmaxx) (hby : 0 < bmaxy)
    (hLx : 0 < Lx) (hLy : 0 < Ly) :
    ∃ ls, biRectangleNested id Lx Ly bmin bmaxx bmaxy = .ok ls ∧
      ∀ l ∈ ls, (∀ f ∈ l, InLand Lx Ly f ∧ Sep bmin f) ∧ (l.map List.length).Pairwise (· ≤ ·) := by
  have hb1 : 0 < (if Lx ≥ Ly then bmaxx else bmaxy) := pos_ite hbx hby
  have t1 := two_le_nLow (long_pos hLx hLy) hb1
  have t2 : 2 ≤ nLow id (short Lx Ly) (if Lx ≥ Ly then bmaxy else bmaxx) :=
    two_le_nLow (short_pos hLx hLy) (pos_ite hby hbx)
  refine ⟨_, biRectangleNested_eq hb hbx hby hLx hLy, fun l hl => ?_⟩
  obtain ⟨n2, hn2, rfl⟩ := List.mem_map.mp hl
  rw [mem_pyRange] at hn2
  exact ⟨fun f hf => Good.final (biList_good hb hb1 (short_pos hLx hLy) (short_le_long Lx Ly) (by omega)
    (le_nHigh hb (by omega)) f hf), biList_sorted (by omega) (by omega)⟩

theorem biList_getLast {L1 L2 bmin bmax1 : Rat} {tr : Bool} (n2 : Int)
    (hne : nLow id L1 bmax1 < nHigh id L1 bmin + 1) :
    ((biList L1 L2 bmin bmax1 tr n2).getLast?).map List.length = some ((nHigh id L1 bmin).toNat * n2.toNat) := by
  rw [biList, if_neg (by rw [pyRange_eq_nil]; omega)]
  have hlast : (pyRange (nLow id L1 bmax1) (nHigh id L1 bmin + 1)).getLast? = some (nHigh id L1 bmin) := by
    rw [pyRange_succ _ _ (by omega)]; simp
  rw [List.getLast?_append, List.getLast?_map, hlast]
  simp

theorem biList_head {L1 L2 bmin bmax1 : Rat} {tr : Bool} (n2 : Int) (h2 : 2 ≤ nLow id L1 bmax1)
    (hne : nLow id L1 bmax1 < nHigh id L1 bmin + 1) :
    ((biList L1 L2 bmin bmax1 tr n2).head?).map List.length = some 1 := by
  rw [biList, if_neg (by rw [pyRange_eq_nil]; omega)]
  unfold biPre
  rw [pyRange_cons (show (1 : Int) < nLow id L1 bmax1 by omega)]
  simp

/-- the outer list of `Bisection2D`: the last candidate of every inner list -/
theorem outer_sorted {L1 L2 bmin bmax1 : Rat} {tr : Bool} {lo hi : Int}
    (hne : nLow id L1 bmax1 < nHigh id L1 bmin + 1) :
    (((pyRange lo hi).map (biList L1 L2 bmin bmax1 tr)).map
        (fun l => ((l.getLast?).map List.length).getD 0)).Pairwise (· ≤ ·) := by
  rw [List.map_map, List.pairwise_map]
  refine List.Pairwise.imp ?_ (pyRange_pairwise_lt lo hi)
  intro a b hab
  simp only [Function.comp, biList_getLast _ hne, Option.getD_some]
  exact Nat.mul_le_mul_left _ (by omega)

/-! ### `zoned_rectangle_domain` -/

/-- `ratio_1 > ratio` in integers -/
theorem ratio_gt_iff {n1 n2 ni1 ni2 : Int} {b1 b2 : Rat} (hb1 : 0 < b1) (hb2 : 0 < b2)
    (hn2 : 2 ≤ n2) (hi1 : 0 ≤ ni1) (hi2 : 0 ≤ ni2) :
    ((iq (n1 - 1) * b1 / iq (ni1 + 1)) / (iq (n2 - 1) * b2 / iq (ni2 + 2)) > b1 / b2) ↔
      (ni1 + 1) * (n2 - 1) < (n1 - 1) * (ni2 + 2) := by
  simp only [iq]
  have a2 : (0 : Rat) < ((n2 - 1 : Int) : Rat) := Int.cast_pos.mpr (by omega)
  have a3 : (0 : Rat) < ((ni1 + 1 : Int) : Rat) := Int.cast_pos.mpr (by omega)
  have a4 : (0 : Rat) < ((ni2 + 2 : Int) : Rat) := Int.cast_pos.mpr (by omega)
  rw [gt_iff_lt, div_lt_div_iff₀ hb2 (div_pos (mul_pos a2 hb2) a4), mul_div_assoc', div_mul_eq_mul_div,
    div_lt_div_iff₀ a4 a3]
  rw [show b1 * (((n2 - 1 : Int) : Rat) * b2) * ((ni1 + 1 : Int) : Rat) = (b1 * b2) * (((ni1 + 1) * (n2 - 1) : Int) : Rat) by
      push_cast; ring,
    show ((n1 - 1 : Int) : Rat) * b1 * b2 * ((ni2 + 2 : Int) : Rat) = (b1 * b2) * (((n1 - 1) * (ni2 + 2) : Int) : Rat) by
      push_cast; ring,
    mul_lt_mul_iff_right₀ (mul_pos hb1 hb2), Int.cast_lt]

/-- `c` is `ratio_1 > ratio` (`ratio_gt_iff`). -/
theorem zoned_next {n1 n2 ni1 ni2 : Int} {c : Prop} [Decidable c]
    (hc : c ↔ (ni1 + 1) * (n2 - 1) < (n1 - 1) * (ni2 + 2))
    (h1 : 1 ≤ ni1) (h2 : 1 ≤ ni2) (h3 : ni1 ≤ n1 - 2) (h4 : ni2 ≤ n2 - 2) (hlt : ni1 < n1 - 2 ∨ ni2 < n2 - 2) :
    (if c then ni1 + 1 else ni1) ≤ n1 - 2 ∧ (if c then ni2 else ni2 + 1) ≤ n2 - 2 ∧
      (if c then ni1 + 1 else ni1) + (if c then ni2 else ni2 + 1) = ni1 + ni2 + 1 ∧
      ni1 ≤ (if c then ni1 + 1 else ni1) ∧ ni2 ≤ (if c then ni2 else ni2 + 1) := by
  split_ifs with h
  · refine ⟨?_, h4, by omega, by omega, by omega⟩
    by_contra hc2
    obtain rfl : ni1 = n1 - 2 := by omega
    have := hc.mp h
    linarith [mul_le_mul_of_nonneg_left (show ni2 + 2 ≤ n2 - 1 by omega) (show (0 : Int) ≤ n1 - 1 by omega)]
  · refine ⟨h3, ?_, by omega, by omega, by omega⟩
    by_contra hc2
    obtain rfl : ni2 = n2 - 2 := by omega
    apply h; rw [hc]
    linarith [mul_le_mul_of_nonneg_right (show ni1 + 1 ≤ n1 - 1 by omega) (show (0 : Int) ≤ n2 - 1 by omega)]

/-- The model's fuel `n_1 + n_2` exceeds the number of passes, `(n_1 - 2 - n_i1) + (n_2 - 2 - n_i2)`.
    `zonedLoop` and `zonedRectangleDomain` have no equation lemma (in `do` form it is not `rfl`).  To unfold a pass:
    `rw [zonedLoop]`, `rw [if_pos/if_neg]` for the guards, then `extract_lets`; `simp only [zonedLoop]` and `split_ifs`
    copy the `let`-bound comparison into every branch and are slow to check. -/
theorem zonedLoop_ok {n1 n2 : Int} {b1 b2 bmin L1 L2 : Rat} (tr : Bool) (hd : 0 < bmin) (hb1 : bmin ≤ b1) (hb2 : bmin ≤ b2)
    (hW : ((n1 : Rat) - 1) * b1 ≤ L1) (hH : ((n2 : Rat) - 1) * b2 ≤ L2) :
    ∀ (fuel : Nat) (ni1 ni2 : Int), 1 ≤ ni1 → 1 ≤ ni2 → ni1 ≤ n1 - 2 → ni2 ≤ n2 - 2 →
      (n1 - 2 - ni1) + (n2 - 2 - ni2) < (fuel : Int) →
      ∃ rest, zonedLoop id n1 n2 b1 b2 tr fuel ni1 ni2 = .ok rest ∧ ∀ f ∈ rest, Good L1 L2 bmin tr f := by
  have p1 : 0 < b1 := lt_of_lt_of_le hd hb1
  have p2 : 0 < b2 := lt_of_lt_of_le hd hb2
  intro fuel
  induction fuel with
  | zero => intro ni1 ni2 _ _ _ _ h; exfalso; omega
  | succ k ih =>
    intro ni1 ni2 h1 h2 h3 h4 hf
    rw [zonedLoop]
    by_cases c0 : ni1 < n1 - 2 ∨ ni2 < n2 - 2
    · rw [if_pos c0, if_neg p2.ne', if_neg (by omega)]
      extract_lets bi1 bi2p1 ratio1 i1 i2
      have q2 : (0 : Rat) < iq (n2 - 1) * b2 := mul_pos (Int.cast_pos.mpr (by omega)) p2
      have q4 : (0 : Rat) < iq (ni2 + 2) := Int.cast_pos.mpr (by omega)
      rw [if_neg (show bi2p1 ≠ 0 from ne_of_gt (div_pos q2 q4))]
      obtain ⟨(a1 : i1 ≤ n1 - 2), (a2 : i2 ≤ n2 - 2), (a3 : i1 + i2 = ni1 + ni2 + 1), (b1' : ni1 ≤ i1), (b2' : ni2 ≤ i2)⟩ :=
        zoned_next (c := ratio1 > b1 / b2) (ratio_gt_iff (n1 := n1) (n2 := n2) (ni1 := ni1) (ni2 := ni2) p1 p2
        (by omega) (by omega) (by omega)) h1 h2 h3 h4 c0
      obtain ⟨z, hz⟩ : ∃ z, zonedRectangle id n1 n2 b1 b2 i1 i2 = .ok z :=
        ⟨_, zonedRectangle_eq_ok.mpr ⟨a1, a2, by omega, by omega, rfl⟩⟩
      obtain ⟨rest, hrest, good⟩ := ih i1 i2 (h1.trans b1') (h2.trans b2') a1 a2 (by omega)
      rw [hz, hrest]
      exact ⟨_, rfl, List.forall_mem_cons.mpr
        ⟨⟨z, rfl, zonedRectangle_good hd.le hb1 hb2 (h1.trans b1') (h2.trans b2') hW hH hz⟩, good⟩⟩
    · rw [if_neg c0]; exact ⟨_, rfl, nofun⟩

theorem zonedRectangleDomain_ok {L1 L2 bmin : Rat} (tr : Bool) (hd : 0 < bmin) (hL : L2 ≤ L1) {a b : Int} (ha : 3 ≤ a) (hb : 3 ≤ b)
    (hale : ((a : Rat) - 1) * bmin ≤ L1) (hble : ((b : Rat) - 1) * bmin ≤ L2) :
    ∃ part, zonedRectangleDomain id L1 L2 a b tr = .ok part ∧ ∀ f ∈ part, Good L1 L2 bmin tr f := by
  obtain ⟨s1, q1⟩ := spacingOf_spec (show 2 ≤ a by omega) hale
  obtain ⟨s2, q2⟩ := spacingOf_spec (show 2 ≤ b by omega) hble
  unfold zonedRectangleDomain
  simp only [ge_iff_le, hL, if_true]
  rw [if_neg (by omega)]
  obtain ⟨z, hz⟩ : ∃ z, zonedRectangle id a b (spacingOf id L1 a) (spacingOf id L2 b) 1 1 = .ok z :=
    ⟨_, zonedRectangle_eq_ok.mpr ⟨by omega, by omega, by omega, by omega, rfl⟩⟩
  obtain ⟨rest, hrest, good⟩ := zonedLoop_ok (n1 := a) (n2 := b) tr hd s1 s2 q1.le q2.le (a.toNat + b.toNat) 1 1 (le_refl _)
    (le_refl _) (by omega) (by omega) (by omega)
  rw [hz, hrest]
  exact ⟨_, rfl, List.forall_mem_cons.mpr
    ⟨⟨z, rfl, zonedRectangle_good hd.le s1 s2 (le_refl _) (le_refl _) q1.le q2.le hz⟩, good⟩⟩

theorem zonedRectangleDomain_valueError {L1 L2 : Rat} (tr : Bool) (hL : L2 ≤ L1) {a b : Int} (ha : 2 ≤ a) (hb : 2 ≤ b)
    (h3 : a < 3 ∨ b < 3) : zonedRectangleDomain id L1 L2 a b tr = .error .valueError := by
  unfold zonedRectangleDomain
  simp only [ge_iff_le, hL, if_true]
  rw [if_neg (by omega)]
  have : zonedRectangle id a b (spacingOf id L1 a) (spacingOf id L2 b) 1 1 = .error .valueError := by
    unfold zonedRectangle
    by_cases c : (1 : Int) > a - 2
    · rw [if_pos c]
    · rw [if_neg c, if_pos (by omega)]
  rw [this]

/-! ### `bi_rectangle_zoned_nested` -/

/-- the `index_l == 0` block: a row, then L, U, C shapes, all on the coarsest grid `a × b` -/
theorem zonedPre_good {L1 L2 bmin : Rat} {tr : Bool} {a b : Int} (hd : 0 < bmin) (ha : 2 ≤ a) (hb : 2 ≤ b)
    (hale : ((a : Rat) - 1) * bmin ≤ L1) (hble : ((b : Rat) - 1) * bmin ≤ L2) :
    ∀ f ∈ zonedPre id tr a b (spacingOf id L1 a) (spacingOf id L2 b), Good L1 L2 bmin tr f := by
  obtain ⟨s1, q1⟩ := spacingOf_spec ha hale
  obtain ⟨s2, q2⟩ := spacingOf_spec hb hble
  have hb' : (2 : Rat) ≤ (b : Rat) := by exact_mod_cast hb
  have hL2 : 0 ≤ L2 := by rw [← q2]; exact mul_nonneg (by linarith) (le_trans hd.le s2)
  intro f hf
  simp only [zonedPre, List.mem_append, List.mem_map, mem_pyRange] at hf
  rcases hf with ((⟨l, hl, rfl⟩ | ⟨l, hl, rfl⟩) | ⟨l, hl, rfl⟩) | ⟨l, hl, rfl⟩
  · exact good_rectangle hd.le s1 s2 (span_mono (by omega) (le_trans hd.le s1) q1.le) (by simpa using hL2)
  · refine ⟨_, rfl, ?_⟩
    rw [lShape_eq_lopU, lopU_eq (by omega)]
    exact perimeter_good hd.le s1 s2 (by omega) (by omega) q1.le (span_mono (by omega) (le_trans hd.le s2) q2.le)
      (nodup_idxP ha (by omega) (Or.inr ⟨le_refl _, by omega⟩)) (fun ij h => (bound_idxP (le_refl _) (by omega) (by omega) ij h).1)
  · refine ⟨_, rfl, ?_⟩
    rw [lopU_eq (by omega)]
    exact perimeter_good hd.le s1 s2 (by omega) (by omega) q1.le q2.le (nodup_idxP ha hb (Or.inr ⟨le_refl _, by omega⟩))
      (fun ij h => (bound_idxP (le_refl _) (by omega) (by omega) ij h).1)
  · refine ⟨_, rfl, ?_⟩
    rw [cShape_eq (by omega) (by omega)]
    exact perimeter_good hd.le s1 s2 (by omega) (by omega) q1.le q2.le (nodup_idxP ha hb (Or.inr ⟨le_refl _, by omega⟩))
      (fun ij h => (bound_idxP (le_refl _) (le_refl _) (by omega) ij h).1)

theorem mem_nsOf {L bmin bmax : Rat} {n : Int} : n ∈ nsOf L bmin bmax ↔ nLow id L bmax ≤ n ∧ n ≤ nHigh id L bmin := by
  rw [nsOf, mem_pyRange]; omega

theorem one_le_length_nsOf {L bmin bmax : Rat} :
    1 ≤ (nsOf L bmin bmax).length ↔ nLow id L bmax ≤ nHigh id L bmin := by
  rw [nsOf, length_pyRange]; omega

theorem nsOf_head {L bmin bmax : Rat} (h : nLow id L bmax ≤ nHigh id L bmin) :
    (nsOf L bmin bmax)[0]? = some (nLow id L bmax) := by
  rw [nsOf, pyRange_cons (by omega)]; rfl

/-- The body of the main loop, `zoned_rectangle_domain(…, n_1_values[j], n_2_values[k], …)`: anonymous in the model,
    named here (with the model's `nsOf`) so that lemmas can speak of one call. -/
def zElem (L1 L2 bmin bmax1 bmax2 : Rat) (tr : Bool) (jk : Nat × Nat) : Py (List Field) :=
  match (nsOf L1 bmin bmax1)[jk.1]?, (nsOf L2 bmin bmax2)[jk.2]? with
  | some a, some b => zonedRectangleDomain id L1 L2 a b tr
  | _, _ => .error .indexError

/-- the model's `mapM` over `zPath` -/
def zParts (L1 L2 bmin bmax1 bmax2 : Rat) (tr : Bool) : Py (List (List Field)) :=
  (zPath (nsOf L1 bmin bmax1).length (nsOf L2 bmin bmax2).length
      ((nsOf L1 bmin bmax1).length + (nsOf L2 bmin bmax2).length - 1) 0 0 0).mapM (zElem L1 L2 bmin bmax1 bmax2 tr)

/-- The body of `biRectangleZonedNested` at `R = id` with its first five `let`s as parameters
    (`biRectangleZonedNested_eq_core`): no case split on `Lx ≥ Ly` below. -/
def zonedCore (L1 L2 bmin bmax1 bmax2 : Rat) (tr : Bool) : Py (List (List Field)) :=
  if bmin = 0 ∨ bmax1 = 0 ∨ bmax2 = 0 then .error .zeroDiv else
  if (nsOf L1 bmin bmax1).length + (nsOf L2 bmin bmax2).length - 1 = 0 then .ok [[]] else
  if nLow id L1 bmax1 - 1 = 0 ∨ nLow id L2 bmax2 - 1 = 0 then .error .zeroDiv else
  match zParts L1 L2 bmin bmax1 bmax2 tr with
  | .error e => .error e
  | .ok parts => .ok [zonedPre id tr (nLow id L1 bmax1) (nLow id L2 bmax2) (spacingOf id L1 (nLow id L1 bmax1))
                        (spacingOf id L2 (nLow id L2 bmax2)) ++ parts.flatten]

theorem zElem_indexError {L1 L2 bmin bmax1 bmax2 : Rat} {tr : Bool} {jk : Nat × Nat}
    (h : (nsOf L1 bmin bmax1).length ≤ jk.1 ∨ (nsOf L2 bmin bmax2).length ≤ jk.2) :
    zElem L1 L2 bmin bmax1 bmax2 tr jk = .error .indexError := by
  unfold zElem
  rcases h with h | h
  · rw [List.getElem?_eq_none h]
  · rw [List.getElem?_eq_none h]
    cases (nsOf L1 bmin bmax1)[jk.1]? <;> rfl

theorem zElem_of_lt {L1 L2 bmin bmax1 bmax2 : Rat} {tr : Bool} {jk : Nat × Nat}
    (h1 : jk.1 < (nsOf L1 bmin bmax1).length) (h2 : jk.2 < (nsOf L2 bmin bmax2).length) :
    zElem L1 L2 bmin bmax1 bmax2 tr jk =
      zonedRectangleDomain id L1 L2 (nsOf L1 bmin bmax1)[jk.1] (nsOf L2 bmin bmax2)[jk.2] tr := by
  unfold zElem
  rw [List.getElem?_eq_getElem h1, List.getElem?_eq_getElem h2]

theorem biRectangleZonedNested_eq_core (Lx Ly bmin bmaxx bmaxy : Rat) :
    biRectangleZonedNested id Lx Ly bmin bmaxx bmaxy =
      zonedCore (long Lx Ly) (short Lx Ly) bmin (if Lx ≥ Ly then bmaxx else bmaxy)
        (if Lx ≥ Ly then bmaxy else bmaxx) (trOf Lx Ly) := by
  -- a bare `rfl` also works but takes twice as long
  unfold biRectangleZonedNested zonedCore zParts
  rfl

section
variable {L1 L2 bmin bmax1 bmax2 : Rat} {tr : Bool}

theorem zonedCore_eq (tr : Bool) (hb : 0 < bmin) (hb1 : 0 < bmax1) (hb2 : 0 < bmax2)
    (hL2 : 0 < L2) (hL : L2 ≤ L1) :
    zonedCore L1 L2 bmin bmax1 bmax2 tr =
      if (nsOf L1 bmin bmax1).length + (nsOf L2 bmin bmax2).length - 1 = 0 then .ok [[]] else
      (zParts L1 L2 bmin bmax1 bmax2 tr).map fun parts =>
        [zonedPre id tr (nLow id L1 bmax1) (nLow id L2 bmax2) (spacingOf id L1 (nLow id L1 bmax1))
          (spacingOf id L2 (nLow id L2 bmax2)) ++ parts.flatten] := by
  have t1 := two_le_nLow (lt_of_lt_of_le hL2 hL) hb1
  have t2 := two_le_nLow hL2 hb2
  unfold zonedCore
  rw [if_neg (not_or.mpr ⟨hb.ne', not_or.mpr ⟨hb1.ne', hb2.ne'⟩⟩), if_neg (show ¬(nLow id L1 bmax1 - 1 = 0 ∨ nLow id L2 bmax2 - 1 = 0) by omega)]
  cases zParts L1 L2 bmin bmax1 bmax2 tr <;> rfl

theorem zPath_head {len1 len2 cnt : Nat} (h : cnt ≠ 0) : ∃ rest, zPath len1 len2 cnt 0 0 0 = (0, 0) :: rest := by
  obtain ⟨c, rfl⟩ := Nat.exists_eq_succ_of_ne_zero h
  exact ⟨_, by rw [zPath]⟩

theorem zPath_bounds (len1 len2 cnt i j k : Nat) (h : cnt = 0 ∨ (j < len1 ∧ k < len2 ∧ cnt + j + k + 1 ≤ len1 + len2)) :
    ∀ p ∈ zPath len1 len2 cnt i j k, p.1 < len1 ∧ p.2 < len2 := by
  fun_induction zPath len1 len2 cnt i j k with
  | case1 => simp
  | case2 c i j k ih1 ih2 =>
    have h : j < len1 ∧ k < len2 ∧ c + 1 + j + k + 1 ≤ len1 + len2 := by omega
    rw [List.forall_mem_cons]
    refine ⟨⟨h.1, h.2.1⟩, ?_⟩
    split <;> split
    · exact ih1 (by omega)
    · exact ih2 (by omega)
    · exact ih2 (by omega)
    · exact ih1 (by omega)

/-- the path starts at `(0, 0)` -/
theorem zParts_head_error (hit : (nsOf L1 bmin bmax1).length + (nsOf L2 bmin bmax2).length - 1 ≠ 0) {e : PyErr}
    (h : zElem L1 L2 bmin bmax1 bmax2 tr (0, 0) = .error e) : zParts L1 L2 bmin bmax1 bmax2 tr = .error e := by
  obtain ⟨rest, hp⟩ := zPath_head (len1 := (nsOf L1 bmin bmax1).length) (len2 := (nsOf L2 bmin bmax2).length) hit
  rw [zParts, hp, List.mapM_cons, h]
  rfl

/-- Both count ranges non-empty and at least three rows each way: every call returns, with fields that fit. -/
theorem zonedCore_returns (tr : Bool) (hb : 0 < bmin) (hb1 : 0 < bmax1) (hb2 : 0 < bmax2) (hL2 : 0 < L2) (hL : L2 ≤ L1)
    (h1 : nLow id L1 bmax1 ≤ nHigh id L1 bmin) (h2 : nLow id L2 bmax2 ≤ nHigh id L2 bmin)
    (h3 : 3 ≤ nLow id L1 bmax1) (h4 : 3 ≤ nLow id L2 bmax2) :
    ∃ ls, zonedCore L1 L2 bmin bmax1 bmax2 tr = .ok ls ∧ ∀ l ∈ ls, ∀ f ∈ l, Good L1 L2 bmin tr f := by
  have l1 := one_le_length_nsOf.mpr h1
  have l2 := one_le_length_nsOf.mpr h2
  obtain ⟨parts, hparts, good⟩ : ∃ parts, zParts L1 L2 bmin bmax1 bmax2 tr = .ok parts ∧
      ∀ part ∈ parts, ∀ f ∈ part, Good L1 L2 bmin tr f := Py.mapM_isOk fun jk hjk => by
    obtain ⟨q1, q2⟩ := zPath_bounds _ _ _ 0 0 0 (Or.inr ⟨by omega, by omega, by omega⟩) jk hjk
    have m1 := mem_nsOf.mp (List.getElem_mem q1)
    have m2 := mem_nsOf.mp (List.getElem_mem q2)
    rw [zElem_of_lt q1 q2]
    exact zonedRectangleDomain_ok tr hb hL (le_trans h3 m1.1) (le_trans h4 m2.1) (le_nHigh hb m1.2) (le_nHigh hb m2.2)
  rw [zonedCore_eq tr hb hb1 hb2 hL2 hL, if_neg (by omega), hparts]
  refine ⟨_, rfl, fun l hl f hf => ?_⟩
  rw [List.mem_singleton.mp hl] at hf
  rcases List.mem_append.mp hf with hf | hf
  · exact zonedPre_good hb (by omega) (by omega) (le_nHigh hb h1) (le_nHigh hb h2) f hf
  · obtain ⟨part, hpart, hfp⟩ := List.mem_flatten.mp hf
    exact good part hpart f hfp

/-- The outcomes of `C03.zoned_outcomes`; the two errors are what the first call, `zElem … (0, 0)`, raises. -/
theorem zonedCore_cases (tr : Bool) (hb : 0 < bmin) (hb1 : 0 < bmax1) (hb2 : 0 < bmax2)
    (hL2 : 0 < L2) (hL : L2 ≤ L1) :
    let len1 := (nsOf L1 bmin bmax1).length
    let len2 := (nsOf L2 bmin bmax2).length
    (len1 + len2 ≤ 1 → zonedCore L1 L2 bmin bmax1 bmax2 tr = .ok [[]]) ∧
    (2 ≤ len1 + len2 → (len1 = 0 ∨ len2 = 0) → zonedCore L1 L2 bmin bmax1 bmax2 tr = .error .indexError) ∧
    (1 ≤ len1 → 1 ≤ len2 → (nLow id L1 bmax1 < 3 ∨ nLow id L2 bmax2 < 3) →
        zonedCore L1 L2 bmin bmax1 bmax2 tr = .error .valueError) ∧
    (1 ≤ len1 → 1 ≤ len2 → 3 ≤ nLow id L1 bmax1 → 3 ≤ nLow id L2 bmax2 →
        ∃ ls, zonedCore L1 L2 bmin bmax1 bmax2 tr = .ok ls) := by
  intro len1 len2
  have t1 := two_le_nLow (lt_of_lt_of_le hL2 hL) hb1
  have t2 := two_le_nLow hL2 hb2
  refine ⟨fun h => ?_, fun h2 h0 => ?_, fun h1 h2 h3 => ?_, fun h1 h2 h3 h4 =>
    (zonedCore_returns tr hb hb1 hb2 hL2 hL (one_le_length_nsOf.mp h1) (one_le_length_nsOf.mp h2) h3 h4).imp fun _ h => h.1⟩
  · rw [zonedCore_eq tr hb hb1 hb2 hL2 hL, if_pos (by show len1 + len2 - 1 = 0; omega)]
  · have hit : len1 + len2 - 1 ≠ 0 := by omega
    rw [zonedCore_eq tr hb hb1 hb2 hL2 hL, if_neg hit, zParts_head_error hit]
    · rfl
    · exact zElem_indexError (h0.imp (fun h => by show len1 ≤ 0; omega) (fun h => by show len2 ≤ 0; omega))
  · have hit : len1 + len2 - 1 ≠ 0 := by omega
    rw [zonedCore_eq tr hb hb1 hb2 hL2 hL, if_neg hit, zParts_head_error hit]
    · rfl
    · simp only [zElem, nsOf_head (one_le_length_nsOf.mp h1), nsOf_head (one_le_length_nsOf.mp h2)]
      exact zonedRectangleDomain_valueError tr hL t1 t2 h3

/-- A result is one of the four outcomes; only the last has fields. -/
theorem zonedCore_good (hb : 0 < bmin) (hb1 : 0 < bmax1) (hb2 : 0 < bmax2)
    (hL2 : 0 < L2) (hL : L2 ≤ L1) {lists : List (List Field)}
    (h : zonedCore L1 L2 bmin bmax1 bmax2 tr = .ok lists) :
    ∀ l ∈ lists, ∀ f ∈ l, Good L1 L2 bmin tr f := by
  obtain ⟨c1, c2, c3, -⟩ := zonedCore_cases tr hb hb1 hb2 hL2 hL
  by_cases a1 : (nsOf L1 bmin bmax1).length + (nsOf L2 bmin bmax2).length ≤ 1
  · obtain rfl := Except.ok.inj ((c1 a1).symm.trans h)
    simp
  by_cases a2 : (nsOf L1 bmin bmax1).length = 0 ∨ (nsOf L2 bmin bmax2).length = 0
  · cases (c2 (by omega) a2).symm.trans h
  by_cases a3 : nLow id L1 bmax1 < 3 ∨ nLow id L2 bmax2 < 3
  · cases (c3 (by omega) (by omega) a3).symm.trans h
  obtain ⟨ls, e, good⟩ := zonedCore_returns tr hb hb1 hb2 hL2 hL (one_le_length_nsOf.mp (by omega))
    (one_le_length_nsOf.mp (by omega)) (by omega) (by omega)
  obtain rfl := Except.ok.inj (e.symm.trans h)
  exact good

theorem biRectangleZonedNested_good {Lx Ly bmin bmaxx bmaxy : Rat} (hb : 0 < bmin) (hbx : 0 < bmaxx) (hby : 0 < bmaxy)
    (hLx : 0 < Lx) (hLy : 0 < Ly) {lists : List (List Field)}
    (h : biRectangleZonedNested id Lx Ly bmin bmaxx bmaxy = .ok lists) :
    ∀ l ∈ lists, ∀ f ∈ l, InLand Lx Ly f ∧ Sep bmin f := fun l hl f hf =>
  Good.final (zonedCore_good hb (pos_ite hbx hby) (pos_ite hby hbx) (short_pos hLx hLy) (short_le_long Lx Ly)
    ((biRectangleZonedNested_eq_core ..).symm.trans h) l hl f hf)

end

/-! ### `rectangular` under a rounding `R` -/

theorem nearP_trIf {δ : Rat} (tr : Bool) {fR f : Field} (h : List.Forall₂ (NearP δ) fR f) :
    List.Forall₂ (NearP δ) (trIf tr fR) (trIf tr f) := by
  cases tr
  · exact h
  · exact List.rel_map (fun _ _ hab => ⟨hab.2, hab.1⟩) h

theorem spacingOf_near {u : Rat} {R : Rat → Rat} (hR : RelErr u R) (L : Rat) (n : Int) :
    Near u (spacingOf R L n) (spacingOf id L n) := hR _

/-- closeness after the coordinate roundings: spacing rounded once, product and sum rounded -/
def delta (u : Rat) : Rat := bump u (bump u u)

theorem rectLoop_near {u : Rat} {R : Rat → Rat} (hR : RelErr u R) (hu : 0 ≤ u) {L1 L2 : Rat} {tr : Bool} {nMin : Int}
    (ns : List Int) (hdec : ∀ n ∈ ns, (rectN2Arg R L1 L2 n).floor = (rectN2Arg id L1 L2 n).floor)
    (n2old : Int) (first : Bool) :
    List.Forall₂ (List.Forall₂ (NearP (delta u)))
      (rectLoop R L1 L2 tr nMin ns n2old first) (rectLoop id L1 L2 tr nMin ns n2old first) := by
  induction ns generalizing n2old first with
  | nil => simp only [rectLoop]; exact List.Forall₂.nil
  | cons n rest ih =>
    have hs := spacingOf_near hR L1 n
    have rn : ∀ a b : Int, List.Forall₂ (NearP (delta u))
        (trIf tr (rectangle R a b (spacingOf R L1 n) (spacingOf R L1 n)))
        (trIf tr (rectangle id a b (spacingOf id L1 n) (spacingOf id L1 n))) :=
      fun a b => nearP_trIf tr (rectangle_near hR hu a b hs hs)
    simp only [rectLoop]
    rw [hdec n (by simp)]
    refine List.rel_append (List.rel_append ?_ ?_) (ih (fun m hm => hdec m (by simp [hm])) _ _)
    · cases first
      · simp only [Bool.false_eq_true, if_false]; exact List.Forall₂.nil
      · simp only [if_true, rectPre]
        exact List.rel_append (forall₂_map_same _ _ _ (fun i _ => rn i 1)) (forall₂_map_same _ _ _ (fun j _ => rn nMin j))
    · split
      · exact List.Forall₂.nil
      · exact List.Forall₂.cons (rn _ _) List.Forall₂.nil

theorem clear_of_between {y δ : Rat} (hδ : 0 ≤ δ) (m : Int) (h1 : (m : Rat) + δ < y) (h2 : y + δ < (m : Rat) + 1) :
    ∀ k : Int, δ < |y - (k : Rat)| := by
  intro k
  by_cases hk : k ≤ m
  · have : (k : Rat) ≤ (m : Rat) := by exact_mod_cast hk
    rw [abs_of_nonneg (by linarith)]; linarith
  · have : (m : Rat) + 1 ≤ (k : Rat) := by exact_mod_cast (show m + 1 ≤ k by omega)
    rw [abs_of_neg (by linarith)]; linarith

theorem floor_eq_of_clear {x y δ : Rat} (h : |x - y| ≤ δ) (hc : ∀ k : Int, δ < |y - (k : Rat)|) : x.floor = y.floor := by
  have h1 := Rat.floor_le y
  have h2 := Rat.lt_floor_add_one y
  have c1 := hc y.floor
  have c2 := hc (y.floor + 1)
  rw [abs_of_nonneg (by linarith)] at c1
  rw [abs_of_neg (by linarith)] at c2
  obtain ⟨a, b⟩ := abs_le.mp h
  apply le_antisymm
  · have : x.floor < y.floor + 1 := by rw [Rat.floor_lt_iff]; linarith
    omega
  · rw [Rat.le_floor_iff]; linarith

theorem ceil_eq_of_clear {x y δ : Rat} (h : |x - y| ≤ δ) (hc : ∀ k : Int, δ < |y - (k : Rat)|) : x.ceil = y.ceil := by
  rw [Rat.ceil_eq_neg_floor_neg, Rat.ceil_eq_neg_floor_neg,
    floor_eq_of_clear (x := -x) (y := -y) (δ := δ) (by rwa [neg_sub_neg, abs_sub_comm]) fun k => ?_]
  have := hc (-k)
  rwa [Int.cast_neg, sub_neg_eq_add, ← abs_neg, neg_add'] at this

theorem round_succ_err {u e : Rat} {R : Rat → Rat} (hR : RelErr u R) (hu : 0 ≤ u) {t q : Rat} (hq : 0 ≤ q)
    (he : |t - q| ≤ e * q) (he0 : 0 ≤ e) (he1 : e ≤ 1) : |R (t + 1) - (q + 1)| ≤ (u * (1 + e) + e) * (q + 1) := by
  obtain ⟨a, b⟩ := abs_le.mp he
  have ht : 0 ≤ t + 1 := by linarith [mul_le_of_le_one_left hq he1]
  have e2 := hR (t + 1)
  rw [abs_of_nonneg ht] at e2
  have tri := abs_sub_le (R (t + 1)) (t + 1) (q + 1)
  rw [add_sub_add_right_eq_sub] at tri
  have h5 : u * (t + 1) ≤ u * ((1 + e) * (q + 1)) := mul_le_mul_of_nonneg_left (by linarith) hu
  linarith

/-- the arguments of `ceil(L/b_max + 1)`, `floor(L/b_min + 1)` -/
theorem arg1_err {u : Rat} {R : Rat → Rat} (hR : RelErr u R) (hu : 0 ≤ u) (hu1 : u ≤ 1) {q : Rat} (hq : 0 ≤ q) :
    |R (R q + 1) - (q + 1)| ≤ 3 * u * (q + 1) := by
  have e1 := hR q
  rw [abs_of_nonneg hq] at e1
  refine le_trans (round_succ_err hR hu hq e1 hu hu1) (mul_le_mul_of_nonneg_right ?_ (add_nonneg hq zero_le_one))
  linarith only [mul_le_mul_of_nonneg_left hu1 hu]

/-- the argument of `n_2 = floor(length_2 / b + 1)`, `b = R (length_1 / (n - 1))` -/
theorem rectN2Arg_err {u : Rat} {R : Rat → Rat} (hR : RelErr u R) (hu : 0 ≤ u) (hu1 : u ≤ 1 / 8) {L1 L2 : Rat}
    (hL1 : 0 < L1) (hL2 : 0 ≤ L2) {n : Int} (hn : 2 ≤ n) :
    |rectN2Arg R L1 L2 n - rectN2Arg id L1 L2 n| ≤ 7 * u * rectN2Arg id L1 L2 n := by
  have hbpos := spacingOf_pos hL1 hn
  have hq : 0 ≤ L2 / spacingOf id L1 n := div_nonneg hL2 (le_of_lt hbpos)
  have n2 : Near (bump u (2 * u)) (R (L2 / spacingOf R L1 n)) (L2 / spacingOf id L1 n) :=
    ((spacingOf_near hR L1 n).div_left L2 hbpos hu (hu1.trans (by norm_num))).round hR hu
  unfold Near at n2
  rw [abs_of_nonneg hq] at n2
  have uu : u * u ≤ u * (1 / 8) := mul_le_mul_of_nonneg_left hu1 hu
  have hb4 : bump u (2 * u) ≤ 4 * u := by unfold bump; linarith only [uu, hu]
  have e1 := le_trans n2 (mul_le_mul_of_nonneg_right hb4 hq)
  refine le_trans (round_succ_err hR hu hq e1 (by linarith only [hu]) (by linarith only [hu1]))
    (mul_le_mul_of_nonneg_right ?_ (add_nonneg hq zero_le_one))
  linarith only [uu, hu]

theorem delta_bounds {u : Rat} (hu : 0 ≤ u) (hu1 : u ≤ 1 / 8) : 0 ≤ delta u ∧ delta u ≤ 4 * u := by
  unfold delta bump
  constructor
  · positivity
  · nlinarith

theorem forall₂_mem_left' {α β : Type} {P : α → β → Prop} {l1 : List α} {l2 : List β} (h : List.Forall₂ P l1 l2) :
    ∀ a ∈ l1, ∃ b ∈ l2, P a b := forall₂_mem_left h

/-- `3u`: error of `R (R q + 1)` (`arg1_err`, `u(1+u) + u ≤ 3u`); `7u`: `rectN2Arg_err` (three roundings, one in a
    denominator: `bump u (2u) ≤ 4u`, then `u(1+4u) + 4u ≤ 7u`); `u ≤ 1/8`: a common, not tight, bound for these two
    and for `delta u ≤ 4u`. -/
theorem rectangular_robust {u : Rat} {R : Rat → Rat} (hR : RelErr u R) (hu : 0 ≤ u) (hu1 : u ≤ 1 / 8)
    {Lx Ly bmin bmax : Rat} (hb : 0 < bmin) (hbm : 0 < bmax) (hLx : 0 < Lx) (hLy : 0 < Ly)
    (c1 : ∀ k : Int, 3 * u * (long Lx Ly / bmax + 1) < |long Lx Ly / bmax + 1 - (k : Rat)|)
    (c2 : ∀ k : Int, 3 * u * (long Lx Ly / bmin + 1) < |long Lx Ly / bmin + 1 - (k : Rat)|)
    (c3 : ∀ n ∈ pyRange (nLow id (long Lx Ly) bmax) (nHigh id (long Lx Ly) bmin + 1), ∀ k : Int,
        7 * u * rectN2Arg id (long Lx Ly) (short Lx Ly) n < |rectN2Arg id (long Lx Ly) (short Lx Ly) n - (k : Rat)|) :
    ∃ fsR fs, rectangular R Lx Ly bmin bmax = .ok fsR ∧ rectangular id Lx Ly bmin bmax = .ok fs ∧
      List.Forall₂ (List.Forall₂ (NearP (delta u))) fsR fs ∧
      ∀ f ∈ fsR, InLand ((1 + delta u) * Lx) ((1 + delta u) * Ly) f ∧ Sep (bmin - 2 * delta u * max Lx Ly) f := by
  have hL1 := long_pos hLx hLy
  have hL2 := short_pos hLx hLy
  have t2 := two_le_nLow hL1 hbm
  obtain ⟨d0, d4⟩ := delta_bounds hu hu1
  have h1 : nLow R (long Lx Ly) bmax = nLow id (long Lx Ly) bmax :=
    ceil_eq_of_clear (arg1_err hR hu (hu1.trans (by norm_num)) (div_pos hL1 hbm).le) c1
  have h2 : nHigh R (long Lx Ly) bmin = nHigh id (long Lx Ly) bmin :=
    floor_eq_of_clear (arg1_err hR hu (hu1.trans (by norm_num)) (div_pos hL1 hb).le) c2
  have h3 : ∀ n ∈ pyRange (nLow id (long Lx Ly) bmax) (nHigh id (long Lx Ly) bmin + 1),
      (rectN2Arg R (long Lx Ly) (short Lx Ly) n).floor = (rectN2Arg id (long Lx Ly) (short Lx Ly) n).floor := by
    intro n hn
    have hn' := mem_pyRange.mp hn
    exact floor_eq_of_clear (rectN2Arg_err hR hu hu1 hL1 (le_of_lt hL2) (by omega)) (c3 n hn)
  obtain ⟨fs, e2, hgood, -⟩ := rectangular_spec hb hbm hLx hLy
  obtain rfl := Except.ok.inj (e2.symm.trans (rectangular_eq hb hbm hLx hLy))
  refine ⟨_, _, rectangular_eqR R hb hbm hLx hLy (h1 ▸ t2), e2, ?_⟩
  rw [h1, h2]
  have hnear := rectLoop_near hR hu (tr := trOf Lx Ly) (nMin := nLow id (long Lx Ly) bmax) _ h3 1 true
  refine ⟨hnear, fun f hf => ?_⟩
  obtain ⟨g, hg, hfg⟩ := forall₂_mem_left hnear f hf
  exact approx_of_near d0 (by linarith only [d4, hu1]) hfg (hgood g hg).1 (hgood g hg).2

end GHEVerif.Domains
