/- `perform_current_month_simulation` (C07): scipy's inverse interpolation on a table that is already
   sorted, the two 48-hour responses of `simulate_hourly` as superpositions with the step response, and
   the bounds on the peak duration they give. -/
import GHEVerif.Model.Hybrid
import GHEVerif.Lemmas.Py
import GHEVerif.Lemmas.Sums
import Mathlib.Algebra.BigOperators.Ring.List
import Mathlib.Data.List.GetD
import Mathlib.Data.List.Induction
import Mathlib.Tactic.Linarith

namespace GHEVerif.Hybrid
open GHEVerif

/-! ### scipy's `interp1d` on a table that is already sorted -/

theorem insSorted_ge (p : Rat × Rat) (l : List (Rat × Rat)) (h : ∀ a ∈ l, a.1 ≤ p.1) : insSorted p l = l ++ [p] := by
  induction l with
  | nil => rfl
  | cons a l ih =>
    have ha : ¬ (p.1 < a.1) := not_lt.mpr (h a (by simp))
    simp only [insSorted, ha, if_false, List.cons_append]
    rw [ih (fun b hb => h b (by simp [hb]))]

/-- numpy's stable argsort leaves an already sorted table unchanged. -/
theorem stableSort_of_sorted (l : List (Rat × Rat)) (h : l.Pairwise (fun a b => a.1 ≤ b.1)) : stableSort l = l := by
  -- a left fold: induction from the right
  induction l using List.reverseRecOn with
  | nil => rfl
  | append_singleton l x ih =>
    rw [List.pairwise_append] at h
    unfold stableSort at ih ⊢
    rw [List.foldl_append, ih h.1]
    exact insSorted_ge x l (fun a ha => h.2.2 a ha x (by simp))

/-- `searchsorted(side="left")` on a sorted table that starts below `m` and ends at or above it: the count of
    entries `< m` is `k + 1` with `m` in `(l[k], l[k+1]]`. -/
theorem count_lt_bracket (m : Rat) (n : Nat) : ∀ (l : List (Rat × Rat)), l.Pairwise (fun a b => a.1 ≤ b.1) →
    l.length = n + 1 → (l.getD 0 (0, 0)).1 < m → m ≤ (l.getD n (0, 0)).1 →
    ∃ k, k < n ∧ (l.filter (fun p => decide (p.1 < m))).length = k + 1 ∧
      (l.getD k (0, 0)).1 < m ∧ m ≤ (l.getD (k + 1) (0, 0)).1 := by
  induction n with
  | zero =>
    intro l _ _ h0 hN
    exact absurd h0 (not_lt.mpr hN)
  | succ n ih =>
    intro l hs hn h0 hN
    obtain ⟨a, b, l, rfl⟩ : ∃ a b t, l = a :: b :: t := by
      match l, hn with
      | a :: b :: t, _ => exact ⟨a, b, t, rfl⟩
    rw [List.pairwise_cons] at hs
    have ha : a.1 < m := h0
    by_cases hb : b.1 < m
    · obtain ⟨k, hk, hc, h1, h2⟩ := ih (b :: l) hs.2 (by simpa using hn) hb hN
      exact ⟨k + 1, by omega, by rw [List.filter_cons_of_pos (by simpa using ha), List.length_cons, hc], h1, h2⟩
    · -- the second entry is already `≥ m`, hence so is everything after it: the count is 1
      have hf : (b :: l).filter (fun p => decide (p.1 < m)) = [] := by
        rw [List.filter_eq_nil_iff]
        intro x hx
        have : b.1 ≤ x.1 := by
          rcases List.mem_cons.mp hx with rfl | hx
          · exact le_rfl
          · exact (List.pairwise_cons.mp hs.2).1 x hx
        simpa using le_trans (not_lt.mp hb) this
      exact ⟨0, by omega, by rw [List.filter_cons_of_pos (by simpa using ha), hf]; rfl, ha, not_lt.mp hb⟩

theorem interp_arith (lo hi m k k' : Rat) (hk : k' = k + 1) (h1 : lo < m) (h2 : m ≤ hi) :
    k < (k' - k) / (hi - lo) * (m - lo) + k ∧ (k' - k) / (hi - lo) * (m - lo) + k ≤ k' ∧
    lo + ((k' - k) / (hi - lo) * (m - lo) + k - k) * (hi - lo) = m := by
  subst hk
  have hpos : 0 < hi - lo := sub_pos.2 (h1.trans_le h2)
  have e : (k + 1 - k) / (hi - lo) * (m - lo) = (m - lo) / (hi - lo) := by
    rw [add_sub_cancel_left, one_div, inv_mul_eq_div]
  rw [e, add_sub_cancel_right, div_mul_cancel₀ _ hpos.ne']
  have f0 : 0 < (m - lo) / (hi - lo) := div_pos (sub_pos.2 h1) hpos
  have f1 : (m - lo) / (hi - lo) ≤ 1 := (div_le_one hpos).2 (sub_le_sub_right h2 lo)
  exact ⟨lt_add_of_pos_left k f0, (add_le_add_left f1 k).trans_eq (add_comm 1 k), by ring⟩

/-- scipy's `interp1d(xs, hours)(m)` on a non-decreasing table with `xs[0] < m ≤ xs[n]`: finite, in `(0, n]`,
    the point of the bracketing interval where the interpolant equals `m`. -/
theorem interp_bounds (xs : List Rat) (n : Nat) (hlen : xs.length = n + 1) (hs : xs.Pairwise (· ≤ ·))
    (m : Rat) (h0 : xs.getD 0 0 < m) (hN : m ≤ xs.getD n 0) :
    ∃ (d : Rat) (k : Nat), interpExtrap xs (hourGrid (n + 1)) m = .val d ∧ 0 < d ∧ d ≤ (n : Rat) ∧
      k < n ∧ xs.getD k 0 < m ∧ m ≤ xs.getD (k + 1) 0 ∧ (k : Rat) < d ∧ d ≤ (k : Rat) + 1 ∧
      xs.getD k 0 + (d - (k : Rat)) * (xs.getD (k + 1) 0 - xs.getD k 0) = m := by
  set pts := xs.zip (hourGrid (n + 1)) with hpts
  have hl : pts.length = n + 1 := by simp [hpts, hlen, hourGrid]
  have hsorted : pts.Pairwise (fun a b => a.1 ≤ b.1) := by
    have : pts.map Prod.fst = xs := by
      rw [hpts, List.map_fst_zip]; simp [hlen, hourGrid]
    rwa [← this, List.pairwise_map] at hs
  have hget : ∀ j, j ≤ n → pts.getD j (0, 0) = (xs.getD j 0, (j : Rat)) := by
    intro j hj
    rw [List.getD_eq_getElem _ _ (by omega), List.getD_eq_getElem _ _ (by omega)]
    simp [hpts, hourGrid]
  obtain ⟨k, hkn, hcnt, hlo, hhi⟩ := count_lt_bracket m n pts hsorted hl
    (by rw [hget 0 (Nat.zero_le n)]; exact h0) (by rw [hget n le_rfl]; exact hN)
  rw [hget k (le_of_lt hkn)] at hlo
  rw [hget (k + 1) hkn] at hhi
  simp only at hlo hhi
  have hne : ¬ (xs.getD (k + 1) 0 = xs.getD k 0) := (hlo.trans_le hhi).ne'
  obtain ⟨a1, a2, a3⟩ := interp_arith _ _ m (k : Rat) ((k + 1 : Nat) : Rat) (by push_cast; ring) hlo hhi
  have hkn' : ((k + 1 : Nat) : Rat) ≤ (n : Rat) := by exact_mod_cast hkn
  refine ⟨_, k, ?_, (Nat.cast_nonneg k).trans_lt a1, a2.trans hkn', hkn, hlo, hhi, a1, le_trans a2 (le_of_eq (Nat.cast_succ k)), a3⟩
  unfold interpExtrap
  simp only []
  rw [← hpts, stableSort_of_sorted pts hsorted, hl, hcnt]
  have : max 1 (min (k + 1) (n + 1 - 1)) = k + 1 := by omega
  rw [this, Nat.add_sub_cancel, hget k (le_of_lt hkn), hget (k + 1) hkn]
  simp only [hne, if_false]

/-! ### `simulate_hourly` as a superposition with the step response -/

theorem telescope (w : Nat → Rat) (n : Nat) :
    ((List.range n).map (fun j => w (j + 1) - w j)).sum = w n - w 0 := List.sum_range_sub n w

/-- Step response (K per kW) of the borehole after `k` hours: `g_sts(k h)/(2πk_s) + R_b`. -/
def stepResp (G : Nat → Rat) (tpk rb : Rat) (k : Nat) : Rat := G k / tpk + rb

theorem qdt_getD (q : List Rat) (j : Nat) (h : j + 1 < q.length) :
    (qdt q).getD j 0 = q.getD (j + 1) 0 - q.getD j 0 := by
  rw [List.getD_eq_getElem _ _ h, List.getD_eq_getElem _ _ (by omega : j < q.length),
    List.getD_eq_getElem _ _ (by simp [qdt]; omega)]
  simp [qdt]

/-- `simulate_hourly` at hour `n` is the superposition of the load changes with the step response. -/
theorem responseFrom_eq (G : Nat → Rat) (tpk rb : Rat) (q : List Rat) (hq0 : q.getD 0 0 = 0) (n : Nat)
    (hn : n < q.length) :
    responseFrom G tpk rb (qdt q) q n =
      ((List.range n).map (fun j => (q.getD (j + 1) 0 - q.getD j 0) * stepResp G tpk rb (n - j))).sum := by
  unfold responseFrom
  have e1 : (List.range n).map (fun j => (qdt q).getD j 0 / tpk * G (n - j))
      = (List.range n).map (fun j => (q.getD (j + 1) 0 - q.getD j 0) * (G (n - j) / tpk)) := by
    apply List.map_congr_left
    intro j hj
    rw [List.mem_range] at hj
    rw [qdt_getD q j (by omega)]; ring
  have e2 : q.getD n 0 * rb = ((List.range n).map (fun j => (q.getD (j + 1) 0 - q.getD j 0) * rb)).sum := by
    simp only [mul_comm _ rb]
    rw [List.sum_map_mul_left, List.sum_range_sub n fun k => q.getD k 0, hq0]; ring
  rw [e1, e2, ← List.sum_map_add]
  congr 1
  apply List.map_congr_left
  intro j _
  unfold stepResp; ring

theorem response_getD (G : Nat → Rat) (tpk rb : Rat) (q : List Rat) (k : Nat) (hk : k + 1 < q.length) :
    (response G tpk rb q).getD (k + 1) 0 = responseFrom G tpk rb (qdt q) q (k + 1) := by
  unfold response
  rw [List.getD_cons_succ, List.getD_eq_getElem _ _ (by simp; omega)]
  simp

theorem response_length (G : Nat → Rat) (tpk rb : Rat) (q : List Rat) : (response G tpk rb q).length = q.length - 1 + 1 := by
  simp [response]

theorem qPeak_getD (p a : Rat) (k : Nat) (h : k < 48) : (qPeak p a).getD (k + 1) 0 = p - a := by
  rw [qPeak, List.getD_cons_succ, List.getD_eq_getElem _ _ (by simpa [Gen.twoDayFactor, Gen.HRS_IN_DAY] using h),
    List.getElem_replicate]

/-- The load changes once, at hour 0. -/
theorem peak_response (G : Nat → Rat) (tpk rb p a : Rat) (n : Nat) (hn : n < 48) :
    responseFrom G tpk rb (qdt (qPeak p a)) (qPeak p a) (n + 1) = (p - a) * stepResp G tpk rb (n + 1) := by
  have h0 : (qPeak p a).getD 0 0 = 0 := rfl
  rw [responseFrom_eq G tpk rb _ h0 (n + 1) (by simp [qPeak, Gen.twoDayFactor, Gen.HRS_IN_DAY]; omega), List.sum_range_succ']
  have : ((List.range n).map (fun j => ((qPeak p a).getD (j + 1 + 1) 0 - (qPeak p a).getD (j + 1) 0) * stepResp G tpk rb (n + 1 - (j + 1)))).sum = 0 := by
    apply List.sum_eq_zero
    intro x hx
    obtain ⟨j, hj, rfl⟩ := List.mem_map.mp hx
    have hj := List.mem_range.mp hj
    rw [qPeak_getD p a (j + 1) (by omega), qPeak_getD p a j (by omega), sub_self, zero_mul]
  simp only [h0, qPeak_getD p a 0 (by omega), Nat.sub_zero, sub_zero, Nat.succ_eq_add_one, this, add_zero]

theorem response_qPeak (G : Nat → Rat) (tpk rb p a : Rat) :
    response G tpk rb (qPeak p a) = 0 :: (List.range 48).map (fun k => (p - a) * stepResp G tpk rb (k + 1)) := by
  unfold response
  have : (qPeak p a).length - 1 = 48 := by simp [qPeak, Gen.twoDayFactor, Gen.HRS_IN_DAY]
  simp only [this]
  congr 1
  apply List.map_congr_left
  intro k hk
  exact peak_response G tpk rb p a k (List.mem_range.mp hk)

theorem qNominal_eq (td : List Rat) (p a : Rat) (hlen : td.length = 49) (hp : p ≠ 0) :
    qNominal td p a = .ok (0 :: (List.range 48).map (fun k => (td.getD (k + 1) 0 - a) / p * td.getD (k + 1) 0)) := by
  unfold qNominal
  rw [show (Gen.twoDayFactor * Gen.HRS_IN_DAY).toNat = 48 from rfl,
    Py.mapM_ok _ (fun k => (td.getD (k + 1) 0 - a) / p * td.getD (k + 1) 0)]
  · rfl
  · intro k hk
    have hk := List.mem_range.mp hk
    rw [pyIndex_of_nonneg td ((k : Int) + 1) (by omega) (by omega), Int.toNat_natCast_add_one]
    simp only [bind, Except.bind, pyDiv_ok hp, pure, Except.pure]
    rfl

theorem pyMax_spec {l : List Rat} {m : Rat} (h : pyMax l = .ok m) : m ∈ l ∧ ∀ y ∈ l, y ≤ m := by
  cases l with
  | nil => cases h
  | cons x xs =>
    cases h
    rw [ratMax_eq_max]
    exact foldl_max_spec xs x

/-! ### the peak duration -/

theorem nominal_le_step (v p a : Rat) (hv0 : 0 ≤ v) (hvp : v ≤ p) (hp : 0 < p) (hap : a ≤ p) :
    (v - a) / p * v ≤ p - a := by
  rw [div_mul_eq_mul_div, div_le_iff₀ hp]
  by_cases h : a ≤ v
  · -- `0 ≤ v - a ≤ p - a` and `0 ≤ v ≤ p`: multiply
    exact mul_le_mul (sub_le_sub_right hvp a) hvp hv0 (sub_nonneg.2 hap)
  · -- `v < a`: the left side is `≤ 0 ≤` the right side
    exact (mul_nonpos_of_nonpos_of_nonneg (sub_neg.2 (not_le.1 h)).le hv0).trans (mul_nonneg (sub_nonneg.2 hap) hp.le)

theorem stepResp_mono (G : Nat → Rat) (tpk rb : Rat) (htpk : 0 < tpk) (hG : ∀ k, 1 ≤ k → G k ≤ G (k + 1))
    (a b : Nat) (ha : 1 ≤ a) (hab : a ≤ b) : stepResp G tpk rb a ≤ stepResp G tpk rb b :=
  Nat.rel_of_forall_rel_succ_of_le_of_le (· ≤ ·)
    (fun k hk => add_le_add_left (div_le_div_of_nonneg_right (hG k hk) (le_of_lt htpk)) rb) ha hab

theorem response_qPeak_sorted (G : Nat → Rat) (tpk rb p a : Rat) (hM : 0 ≤ p - a) (hS : 0 ≤ stepResp G tpk rb 1)
    (hmono : ∀ a b, 1 ≤ a → a ≤ b → stepResp G tpk rb a ≤ stepResp G tpk rb b) :
    (response G tpk rb (qPeak p a)).Pairwise (· ≤ ·) := by
  rw [response_qPeak, List.pairwise_cons, List.pairwise_map]
  constructor
  · intro x hx
    obtain ⟨k, _, rfl⟩ := List.mem_map.mp hx
    exact mul_nonneg hM (le_trans hS (hmono 1 (k + 1) le_rfl (by omega)))
  · exact List.Pairwise.imp (fun {x y} (h : x < y) =>
      mul_le_mul_of_nonneg_left (hmono (x + 1) (y + 1) (by omega) (by omega)) hM) List.pairwise_lt_range

/-- Abel's inequality (`abel_le`) read backwards in time. -/
theorem responseFrom_le (G : Nat → Rat) (tpk rb : Rat) (q : List Rat) (hq0 : q.getD 0 0 = 0) (M : Rat)
    (hS : 0 ≤ stepResp G tpk rb 1) (hmono : ∀ a b, 1 ≤ a → a ≤ b → stepResp G tpk rb a ≤ stepResp G tpk rb b)
    (k : Nat) (hk : k + 1 < q.length) (hq : ∀ j, j ≤ k + 1 → q.getD j 0 ≤ M) :
    responseFrom G tpk rb (qdt q) q (k + 1) ≤ M * stepResp G tpk rb (k + 1) := by
  rw [responseFrom_eq G tpk rb q hq0 (k + 1) hk]
  exact abel_le (fun j => q.getD j 0) (fun j => stepResp G tpk rb (k + 1 - j)) M k
    (fun j _ hj => by rw [hq0, sub_zero]; exact hq j hj)
    (fun j _ => hmono _ _ (by omega) (by omega))
    (by rwa [Nat.add_sub_cancel_left])

/-- For a window dominated by the peak (`0 ≤ qᵢ ≤ peak`, `avg < peak`) the nominal response stays below the
    peak-step response, so its maximum `m` is met inside the 48-hour table; the placeholder `1e-6` is returned
    exactly when `m ≤ 0`.  `find_peak_durations` does not guarantee the domination (C07's known findings). -/
theorem peakDuration_bounds (G : Nat → Rat) (tpk rb : Rat) (td : List Rat) (p a : Rat)
    (hlen : td.length = 49) (htpk : 0 < tpk) (hG : ∀ k, 1 ≤ k → G k ≤ G (k + 1))
    (hS : 0 ≤ stepResp G tpk rb 1)
    (hq : ∀ k, 1 ≤ k → k ≤ 48 → 0 ≤ td.getD k 0 ∧ td.getD k 0 ≤ p) (ha : 0 ≤ a) (hap : a < p) :
    ∃ (d m : Rat) (qn : List Rat), peakDuration G tpk rb td p a = .ok (.val d) ∧ 0 < d ∧ d ≤ 48 ∧
      qNominal td p a = .ok qn ∧ pyMax (response G tpk rb qn) = .ok m ∧
      ((m ≤ 0 ∧ d = Gen.hybridDelta) ∨
        (0 < m ∧ ∃ k : Nat, k < 48 ∧ (k : Rat) < d ∧ d ≤ (k : Rat) + 1 ∧
          (response G tpk rb (qPeak p a)).getD k 0
            + (d - (k : Rat)) * ((response G tpk rb (qPeak p a)).getD (k + 1) 0 - (response G tpk rb (qPeak p a)).getD k 0) = m)) := by
  have hp : 0 < p := ha.trans_lt hap
  have hM : 0 ≤ p - a := sub_nonneg.2 hap.le
  have hmono := stepResp_mono G tpk rb htpk hG
  have s48 : ∀ k, k < 48 → (p - a) * stepResp G tpk rb (k + 1) ≤ (p - a) * stepResp G tpk rb 48 := fun k hk =>
    mul_le_mul_of_nonneg_left (hmono (k + 1) 48 (by omega) (by omega)) hM
  have hqn := qNominal_eq td p a hlen (ne_of_gt hp)
  set qn : List Rat := 0 :: (List.range 48).map (fun k => (td.getD (k + 1) 0 - a) / p * td.getD (k + 1) 0) with hqndef
  have qlen : qn.length = 49 := by rw [hqndef, List.length_cons, List.length_map, List.length_range]
  have qle : ∀ k, k ≤ 48 → qn.getD k 0 ≤ p - a := by
    intro k hk
    cases k with
    | zero => exact hM
    | succ k =>
      obtain ⟨v0, v1⟩ := hq (k + 1) (by omega) hk
      rw [hqndef, List.getD_cons_succ, List.getD_eq_getElem _ _ (by rw [List.length_map, List.length_range]; omega),
        List.getElem_map, List.getElem_range]
      exact nominal_le_step _ p a v0 v1 hp (le_of_lt hap)
  -- hence the maximum of the nominal response is at most the last entry of the peak-step table
  obtain ⟨m, hm⟩ : ∃ m, pyMax (response G tpk rb qn) = .ok m := ⟨_, rfl⟩
  have hmle : m ≤ (p - a) * stepResp G tpk rb 48 := by
    rcases List.mem_cons.mp (pyMax_spec hm).1 with h | h
    · rw [h]
      exact mul_nonneg hM (le_trans hS (hmono 1 48 le_rfl (by omega)))
    · rw [qlen] at h
      obtain ⟨k, hk, rfl⟩ := List.mem_map.mp h
      have hk := List.mem_range.mp hk
      exact le_trans (responseFrom_le G tpk rb qn rfl (p - a) hS hmono k (by omega) (fun j hj => qle j (by omega))) (s48 k hk)
  have htpkL := response_qPeak G tpk rb p a
  have hlenL : (response G tpk rb (qPeak p a)).length = 48 + 1 := by rw [htpkL]; simp
  have hg48 : (response G tpk rb (qPeak p a)).getD 48 0 = (p - a) * stepResp G tpk rb 48 := by
    rw [htpkL, List.getD_cons_succ, List.getD_eq_getElem _ _ (by simp)]
    simp
  unfold peakDuration
  rw [hqn]
  simp only [bind, Except.bind, hm]
  by_cases hpos : m > 0
  · simp only [hpos, if_true, pure, Except.pure]
    rw [hlenL]
    obtain ⟨d, k, e1, e2, e3, e4, _, _, e7, e8, e9⟩ := interp_bounds _ 48 hlenL
      (response_qPeak_sorted G tpk rb p a hM hS hmono) m (by rw [htpkL]; exact hpos) (by rw [hg48]; exact hmle)
    exact ⟨d, m, qn, by rw [e1], e2, by exact_mod_cast e3, rfl, hm, Or.inr ⟨hpos, k, e4, e7, e8, e9⟩⟩
  · simp only [hpos, if_false, pure, Except.pure]
    exact ⟨Gen.hybridDelta, m, qn, rfl, by norm_num [Gen.hybridDelta], by norm_num [Gen.hybridDelta], rfl, hm,
      Or.inl ⟨not_lt.mp hpos, rfl⟩⟩

end GHEVerif.Hybrid
