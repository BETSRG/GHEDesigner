/- `RowWiseModifiedBisectionSearch.search`: what its three loops keep (`rwBisect`, `rwSweep`, `rwRemove`),
   and the whole search by the signs at the two end spacings (`rowwiseSearch_cases`). -/
import GHEVerif.Lemmas.Search

namespace GHEVerif.Search
open GHEVerif

/-- Excess at maximum height of what the RowWise search returns. -/
def rwExcess (Es : Rat → Rat) (E1 : Rat) (Esub : Nat → Rat) : RWSel → Rat
  | .atSpacing s => Es s
  | .sub n => Esub n
  | .single => E1

/-- Names as in search_routines.py: `spacing_high` starts at the SMALLEST spacing `c.start`, and the
    excess there is first stored as `low_e`. -/
theorem rwBisect_hi (Es : Rat → Rat) : ∀ fuel b, Es b.hi ≤ 0 → Es (rwBisect Es fuel b).hi ≤ 0 := by
  intro fuel
  induction fuel with
  | zero => intro b h; simpa [rwBisect] using h
  | succ f ih =>
    intro b h
    unfold rwBisect
    by_cases he : Es b.m ≤ 0
    · simp only [he, if_true]
      split
      · simpa using he
      · apply ih; simpa using he
    · simp only [he, if_false]
      split
      · simpa using h
      · apply ih; simpa using h

/-- The first target becomes the first best field, and a feasible best field is only replaced by a
    feasible one.  (That a field is returned at all — the model's `none` arm is unreachable — needs
    only a first target.) -/
theorem rwSweep_feasible (Es : Rat → Rat) (nb : Rat → Nat) (szs : Rat → Rat) (f : Nat → Rat) (n : Nat)
    (h0 : Es (f 0) ≤ 0) :
    ∃ s t, rwSweep Es nb szs ((List.range (n + 1)).map f) none = some (s, t) ∧ Es s ≤ 0 := by
  rw [List.range_succ_eq_map, List.map_cons]
  suffices h : ∀ targets (b : Rat × Rat), Es b.1 ≤ 0 →
      ∃ s t, rwSweep Es nb szs targets (some b) = some (s, t) ∧ Es s ≤ 0 from h _ (f 0, _) h0
  intro targets
  induction targets with
  | nil => intro b h; exact ⟨b.1, b.2, rfl, h⟩
  | cons ts rest ih =>
    intro b h
    obtain ⟨bs, bt⟩ := b
    unfold rwSweep
    simp only
    split
    · rename_i hc; exact ih _ hc.1
    · exact ih _ h

theorem rwRemove_induct (Esub : Nat → Rat) (P : RWSel → Prop) (hsub : ∀ n, Esub n ≤ 0 → P (.sub n)) :
    ∀ fuel r, P r.sel → P (rwRemove Esub fuel r).sel := by
  intro fuel
  induction fuel with
  | zero => intro r h; exact h
  | succ f ih =>
    intro r h
    unfold rwRemove
    by_cases he : Esub ((r.nmax + r.nmin) / 2) ≤ 0
    · simp only [he, if_true]
      split
      · exact hsub _ he
      · exact ih _ (hsub _ he)
    · simp only [he, if_false]
      split
      · exact h
      · exact ih _ h

theorem rowwiseSearch_cases (Es : Rat → Rat) (nb : Rat → Nat) (szs : Rat → Rat) (E1 : Rat)
    (Esub : Nat → Rat) (c : RWCfg) :
    (0 < Es c.start ∧ 0 < Es c.stop ∧
      (rowwiseSearch Es nb szs E1 Esub c).1 =
        if c.cont then .selected (.atSpacing c.start) true else .valueError) ∨
    (Es c.start < 0 ∧ 0 < Es c.stop ∧
      ∃ s, (rowwiseSearch Es nb szs E1 Esub c).1 = .selected (.atSpacing s) false ∧ Es s ≤ 0) ∨
    (Es c.start < 0 ∧ Es c.stop < 0 ∧
      ∃ f, (rowwiseSearch Es nb szs E1 Esub c).1 = .selected f false ∧ rwExcess Es E1 Esub f ≤ 0 ∧
        (f = .single ∨ f = .atSpacing c.stop ∨ ∃ n, f = .sub n)) ∨
    (¬ (0 < Es c.start ∧ 0 < Es c.stop) ∧ ¬ (Es c.start < 0 ∧ 0 < Es c.stop) ∧
      ¬ (Es c.stop < 0 ∧ Es c.start < 0) ∧ (rowwiseSearch Es nb szs E1 Esub c).1 = .valueError) := by
  unfold rowwiseSearch
  simp only
  by_cases c1 : Es c.start > 0 ∧ Es c.stop > 0
  · rw [if_pos c1]; exact Or.inl ⟨c1.1, c1.2, rfl⟩
  · rw [if_neg c1]
    by_cases c2 : Es c.start < 0 ∧ 0 < Es c.stop
    · rw [if_pos c2]
      refine Or.inr (Or.inl ⟨c2.1, c2.2, ?_⟩)
      generalize hb : rwBisect Es c.maxIter
        { hi := c.start, lo := c.stop, lowE := Es c.start, highE := Es c.stop, m := (c.stop + c.start) / 2,
          trace := [.sp c.start, .sp c.stop] } = b
      have hhi : Es b.hi ≤ 0 := by rw [← hb]; exact rwBisect_hi Es _ _ (le_of_lt c2.1)
      -- the sweep starts at the feasible end `b.hi` of the bisection
      obtain ⟨s, t, hs, hf⟩ := rwSweep_feasible Es nb szs
        (fun (k : Nat) => b.hi + (k : Nat) * (c.step / 10)) c.nExtra (by simpa using hhi)
      exact ⟨s, by rw [hs], hf⟩
    · rw [if_neg c2]
      by_cases c3 : Es c.stop < 0 ∧ Es c.start < 0
      · rw [if_pos c3]
        refine Or.inr (Or.inr (Or.inl ⟨c3.2, c3.1, ?_⟩))
        by_cases c4 : E1 ≤ 0
        · rw [if_pos c4]; exact ⟨.single, rfl, c4, Or.inl rfl⟩
        · rw [if_neg c4]
          obtain ⟨h1, h2⟩ := rwRemove_induct Esub
            (fun f => rwExcess Es E1 Esub f ≤ 0 ∧ (f = .atSpacing c.stop ∨ ∃ n, f = .sub n))
            (fun n h => ⟨h, Or.inr ⟨n, rfl⟩⟩) c.maxIter
            { nmax := nb c.stop, nmin := 1, sel := .atSpacing c.stop, trace := [.sp c.start, .sp c.stop] ++ [.one] }
            ⟨le_of_lt c3.1, Or.inl rfl⟩
          exact ⟨_, rfl, h1, Or.inr h2⟩
      · rw [if_neg c3]; exact Or.inr (Or.inr (Or.inr ⟨c1, c2, c3, rfl⟩))

end GHEVerif.Search
