/- `GHE.size` and `GHEManager.find_design`, interpreted from their regenerated statement lists:
   `find_design` is search, then `size` on the three-height objective, so a returned design is inverted
   once for every search class (`findDesignG_design`). -/
import GHEVerif.Model.Pipeline
import GHEVerif.Lemmas.Search

namespace GHEVerif.Report
open GHEVerif GHEVerif.Search

/-- Also the property theorem `C12.size_statements`; here because `size_simAt` rewrites with it. -/
theorem size_statements' :
    Gen.sizeOps = [.setMid, .solve, .setReturned, .simulate] ∧
    Gen.objectiveOps = [.setH, .simulate, .cost, .ret] :=
  ⟨rfl, rfl⟩

/-- Also the property theorem `C12.reported_temps_at_reported_height`.  (False before the F6 repair: with
    a clamp at the lower bound the last simulation had been at the upper bound.) -/
theorem size_simAt (f : Rat → Rat) (lo hi : Rat) (its : List Rat) (brent : Rat)
    (st st' : GState) (h : size f lo hi its brent st = .ok st') :
    st'.simAt = some st'.H ∧
      ∃ kind, solveRoot ((hi + lo) / 2) f lo hi brent = .ok (kind, st'.H) := by
  unfold size at h
  rw [size_statements'.1, size_statements'.2] at h
  simp only [runSize] at h
  cases hs : solveRoot ((hi + lo) / 2) f lo hi brent with
  | error e => simp [hs] at h
  | ok kr =>
    obtain ⟨kind, r⟩ := kr
    simp only [hs] at h
    cases kind <;> cases h <;> exact ⟨rfl, _, rfl⟩

end GHEVerif.Report

namespace GHEVerif.Pipeline
open GHEVerif GHEVerif.Search GHEVerif.Report

/-- The statements of `GHEManager.find_design` as regenerated from manager.py on this run. -/
theorem find_design_statements :
    Gen.findDesignOps = [.startTimer, .search, .computeG, .stopTimer, .size, .ret0] := rfl

/-- `α`, `β`: the search class's candidate identifier and extra output. -/
theorem findDesignG_eq_spec {α β : Type} (search : SearchRes α β) (E : α → Rat → Rat) (minH maxH : Rat)
    (f : α → Rat → Rat) (its : α → List Rat) (brent : α → Rat) :
    findDesignG search E minH maxH f its brent = findDesignSpec search minH maxH f its brent := by
  unfold findDesignG findDesignSpec
  rw [find_design_statements]
  simp only [runMgr, mgrStep, Bool.false_eq_true, if_false]
  cases search with
  | valueError => rfl
  | pyError e => rfl
  | selected k h p =>
    simp only [Bool.false_eq_true, if_false, if_true]
    cases size (f k) minH maxH (its k) (brent k) { H := h, simAt := none, returned := 0 } with
    | error e => rfl
    | ok st => rfl

theorem findDesignG_design {α β : Type} {search : SearchRes α β} {E : α → Rat → Rat} {minH maxH : Rat}
    {f : α → Rat → Rat} {its : α → List Rat} {brent : α → Rat} {d : DesignG α β}
    (hres : findDesignG search E minH maxH f its brent = .design d) :
    (∃ h, search = .selected d.field h d.path) ∧ d.st.simAt = some d.st.H ∧
      ∃ kind, solveRoot ((maxH + minH) / 2) (f d.field) minH maxH (brent d.field) = .ok (kind, d.st.H) := by
  rw [findDesignG_eq_spec] at hres
  unfold findDesignSpec at hres
  cases search with
  | valueError => cases hres
  | pyError e => cases hres
  | selected k h p =>
    simp only at hres
    cases hs : size (f k) minH maxH (its k) (brent k) { H := h, simAt := none, returned := 0 } with
    | error e => rw [hs] at hres; cases hres
    | ok st =>
      rw [hs] at hres; injection hres with hres; subst hres
      exact ⟨⟨h, rfl⟩, size_simAt _ _ _ _ _ _ _ hs⟩

theorem findDesignG_design_feasible {α β : Type} {search : SearchRes α β} {E : α → Rat → Rat} {minH maxH : Rat}
    {f : α → Rat → Rat} {its : α → List Rat} {brent : α → Rat} {d : DesignG α β}
    (hres : findDesignG search E minH maxH f its brent = .design d)
    (hfeas : f d.field maxH < 0) (hnz : f d.field minH ≠ 0) :
    (f d.field minH < 0 ∧ d.st.H = minH) ∨ (0 < f d.field minH ∧ d.st.H = brent d.field) := by
  obtain ⟨_, _, kind, hk⟩ := findDesignG_design hres
  rcases solveRoot_after_feasible ((maxH + minH) / 2) (f d.field) minH maxH (brent d.field) hfeas hnz with
    ⟨hneg, e⟩ | ⟨hpos, e⟩
  · exact Or.inl ⟨hneg, (Prod.mk.inj (Except.ok.inj (hk.symm.trans e))).2⟩
  · exact Or.inr ⟨hpos, (Prod.mk.inj (Except.ok.inj (hk.symm.trans e))).2⟩

/-! ### the searches as `SearchRes` -/

theorem search1D_selected {counts : List Nat} {E : Nat → Rat → Rat} {cfg : Cfg} {k : Nat} {h : Rat} {p : Path}
    (hs : search1D counts E cfg = .selected k h p) : (bisect1D counts E cfg).1 = .selected k h p := by
  unfold search1D at hs
  cases ho : (bisect1D counts E cfg).1 <;> rw [ho] at hs <;> cases hs
  rfl

theorem searchOf2_selected {o : Outcome2} {lk : Nat × Nat} {h : Rat} {u : Unit}
    (hs : searchOf2 o = .selected lk h u) : o = .selected lk.1 lk.2 h := by
  cases o <;> cases hs
  rfl

theorem searchRW_selected {Es : Rat → Rat} {nb : Rat → Nat} {szs : Rat → Rat} {E1 : Rat} {Esub : Nat → Rat}
    {c : RWCfg} {maxH h : Rat} {fld : RWSel} {esc : Bool}
    (hs : searchRW Es nb szs E1 Esub c maxH = .selected fld h esc) :
    h = maxH ∧ (rowwiseSearch Es nb szs E1 Esub c).1 = .selected fld esc := by
  unfold searchRW at hs
  cases ho : (rowwiseSearch Es nb szs E1 Esub c).1 <;> rw [ho] at hs <;> cases hs
  exact ⟨rfl, rfl⟩

end GHEVerif.Pipeline
