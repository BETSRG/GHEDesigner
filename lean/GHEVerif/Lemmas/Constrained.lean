/- `Model/Constrained.lean` on runs that return: `stableSort` is insertion sort, `remove_cutout` a filter,
   the run after the grid a map over the candidate lists, the bounding rectangle the vertex maxima; the reach
   of an edge's tolerance band.  A lemma `f_ok` inverts a successful run (`f … = .ok r → …`); when a call
   returns is not characterised. -/
import GHEVerif.Model.Constrained
import GHEVerif.Lemmas.Polygon
import GHEVerif.Lemmas.Py

namespace GHEVerif.Constrained
open GHEVerif GHEVerif.Coords GHEVerif.Domains GHEVerif.Polygon

theorem eq_map_of_forall₂ {α β : Type} {f : α → β} {l : List α} {r : List β}
    (h : List.Forall₂ (fun x y => y = f x) l r) : r = l.map f := by
  induction h with
  | nil => rfl
  | cons h _ ih => rw [List.map_cons, ← ih, h]

theorem forall₂_map_self {α β : Type} {P : α → β → Prop} {f : α → β} {l : List α} :
    List.Forall₂ P l (l.map f) ↔ ∀ x ∈ l, P x (f x) := by
  rw [List.forall₂_map_right_iff, List.forall₂_same]

/-! ### `stableSort` (Python's `sorted`) -/

section sort
variable {α : Type} (key : α → Nat)

theorem stableSort_eq (l : List α) : stableSort key l = l.insertionSort (fun x y => key x ≤ key y) := by
  have ins : ∀ a (l : List α), insertByKey key a l = l.orderedInsert (fun x y => key x ≤ key y) a := by
    intro a l
    induction l with
    | nil => rfl
    | cons b bs ih =>
      unfold insertByKey
      split
      · rw [ih]; exact (List.orderedInsert_of_not_le (fun x y => key x ≤ key y) bs (not_le.mpr ‹_›)).symm
      · exact (List.orderedInsert_cons_of_le (fun x y => key x ≤ key y) bs (not_lt.mp ‹_›)).symm
  induction l with
  | nil => rfl
  | cons a l ih => rw [stableSort, ih, ins]; rfl

theorem stableSort_perm (l : List α) : (stableSort key l).Perm l :=
  stableSort_eq key l ▸ List.perm_insertionSort _ l

theorem mem_stableSort {x : α} {l : List α} : x ∈ stableSort key l ↔ x ∈ l :=
  (stableSort_perm key l).mem_iff

theorem stableSort_sorted (l : List α) : (stableSort key l).Pairwise (fun x y => key x ≤ key y) :=
  have : Std.Total (fun x y : α => key x ≤ key y) := ⟨fun _ _ => Nat.le_total _ _⟩
  have : IsTrans α (fun x y : α => key x ≤ key y) := ⟨fun _ _ _ => Nat.le_trans⟩
  stableSort_eq key l ▸ List.pairwise_insertionSort _ l

theorem stableSort_of_sorted (l : List α) (h : l.Pairwise (fun x y => key x ≤ key y)) :
    stableSort key l = l := by
  rw [stableSort_eq, h.insertionSort_eq]

theorem stableSort_map {α β : Type} (key : α → Nat) (g : β → α) (l : List β) :
    (stableSort (fun x => key (g x)) l).map g = stableSort key (l.map g) := by
  rw [stableSort_eq, stableSort_eq]
  exact List.map_insertionSort _ _ g l fun _ _ _ _ => Iff.rfl

/-- Stability: the elements of one key form a sorted sublist of the input, which insertion sort keeps
    as a sublist; the counts agree. -/
theorem stableSort_filter (l : List α) (k : Nat) :
    (stableSort key l).filter (fun x => key x = k) = l.filter (fun x => key x = k) := by
  have hs : (l.filter (fun x => key x = k)).Sublist (stableSort key l) := by
    rw [stableSort_eq]
    refine List.sublist_insertionSort (List.pairwise_of_forall_mem_list fun a ha b hb => ?_) List.filter_sublist
    rw [of_decide_eq_true (List.mem_filter.mp ha).2, of_decide_eq_true (List.mem_filter.mp hb).2]
  have h2 := hs.filter (fun x => key x = k)
  simp only [List.filter_filter, Bool.and_self] at h2
  exact (h2.eq_of_length ((stableSort_perm key l).filter _).length_eq.symm).symm

end sort

/-! ### remove_cutout -/

theorem mem_results {tol : Rat} {polys : List Poly} {p : Point} {v : Int} :
    (results tol polys p).contains v = true ↔ ∃ b ∈ polys, classify tol b p = v := by
  simp only [results, List.contains_iff_mem, List.mem_map]

theorem keepPoint_keep_iff (kc : Bool) (tol : Rat) (polys : List Poly) (p : Point) :
    keepPoint false kc tol polys p = true ↔
      (∃ b ∈ polys, classify tol b p = 1) ∨ (kc = true ∧ ∃ b ∈ polys, classify tol b p = 0) := by
  unfold keepPoint
  simp only [Bool.false_eq_true, if_false, Gen.rcKeepIfKeepInside, Bool.or_eq_true, Bool.and_eq_true,
    mem_results, Gen.rcInside, Gen.rcOnEdge]
  rw [and_comm]

theorem keepPoint_remove_iff (kc : Bool) (tol : Rat) (polys : List Poly) (p : Point) :
    keepPoint true kc tol polys p = true ↔
      (∀ b ∈ polys, classify tol b p ≠ 1) ∧ (kc = true ∨ ∀ b ∈ polys, classify tol b p ≠ 0) := by
  unfold keepPoint
  simp only [if_true, Gen.rcKeepIfRemoveInside, Gen.rcInside, Gen.rcOnEdge, Bool.and_eq_true, Bool.not_eq_true',
    ← Bool.not_eq_true, mem_results, not_exists, not_and, ne_eq]
  cases kc
  · simp
  · simp

/-- The polygons a boundary argument stands for once `remove_cutout` accepted it. -/
def Bounds.polys : Bounds → List Poly
  | .single p => [p]
  | .many ps => ps

theorem wrapBounds_ok {b : Bounds} {qs : List Poly} (h : wrapBounds b = .ok qs) : qs = b.polys := by
  match b, h with
  | .single (v :: vs), h => cases h; rfl
  | .many ((v :: vs) :: rest), h => cases h; rfl

theorem removeCutout_ok {coords out : Field} {b : Bounds} {ri kc : Bool} {tol : Rat}
    (h : removeCutout coords b ri kc tol = .ok out) :
    out = coords.filter (keepPoint ri kc tol b.polys) := by
  unfold removeCutout at h
  split at h
  · cases h
  · rename_i qs hw
    cases wrapBounds_ok hw
    cases h; rfl

/-! ### the two default cut-outs -/

/-- The property cut (`remove_inside=False, keep_contour=True`) and the no-go cut
    (`remove_inside=True, keep_contour=False`) together. -/
def keptB (tol : Rat) (props nogos : List Poly) (p : Point) : Bool :=
  keepPoint true false tol nogos p && keepPoint false true tol props p

/-- … in terms of `point_polygon_check`: 1 or 0 for some property outline, −1 for every no-go polygon. -/
def Kept (tol : Rat) (props nogos : List Poly) (p : Point) : Prop :=
  (∃ b ∈ props, classify tol b p = 1 ∨ classify tol b p = 0) ∧ (∀ b ∈ nogos, classify tol b p = -1)

theorem keptB_iff (tol : Rat) (props nogos : List Poly) (p : Point) :
    keptB tol props nogos p = true ↔ Kept tol props nogos p := by
  have hm : ∀ b, classify tol b p = -1 ↔ classify tol b p ≠ 1 ∧ classify tol b p ≠ 0 := fun b => by
    rcases classify_range tol b p with h | h | h <;> simp [h]
  -- `hm` splits `= -1`, the quantifiers distribute: both sides become `(∃ =1 ∨ ∃ =0) ∧ (∀ ≠0) ∧ ∀ ≠1`
  simp only [keptB, Kept, Bool.and_eq_true, keepPoint_keep_iff, keepPoint_remove_iff, hm, forall_and, and_or_left,
    exists_or, Bool.false_eq_true, false_or, true_and, and_comm]

/-- One candidate field after both cuts. -/
def cutOf (tol : Rat) (props nogos : List Poly) (f : Field) : Field := f.filter (keptB tol props nogos)

/-- One candidate list after both cuts and the two `continue` statements. -/
def cutDom (tol : Rat) (props nogos : List Poly) (dom : List Field) : List Field :=
  (dom.map (cutOf tol props nogos)).filter (fun g => decide (g ≠ []))

theorem cutDom_eq (tol : Rat) (props nogos : List Poly) (dom : List Field) :
    cutDom tol props nogos dom = (dom.map (cutOf tol props nogos)).filter (fun g => decide (g ≠ [])) := rfl

theorem mem_cutDom {tol : Rat} {props nogos : List Poly} {dom : List Field} {g : Field} :
    g ∈ cutDom tol props nogos dom ↔ (∃ f ∈ dom, cutOf tol props nogos f = g) ∧ g ≠ [] := by
  simp [cutDom]

theorem cutDom_eq_nil_iff {tol : Rat} {props nogos : List Poly} {dom : List Field} :
    cutDom tol props nogos dom = [] ↔ ∀ f ∈ dom, cutOf tol props nogos f = [] := by
  simp [cutDom, List.filter_eq_nil_iff]

theorem classify_nil (tol : Rat) (p : Point) : classify tol [] p = -1 := by
  simp [classify, edges, rayLoop, Gen.ppcInitInside, Gen.ppcRetIfInside]

/-- `len(no_go_boundaries) == 0` skips the no-go call; its filter would keep everything anyway. -/
theorem keepPoint_nogo_empty {nogo : Bounds} (h : nogo.len = 0) (tol : Rat) (p : Point) :
    keepPoint true false tol nogo.polys p = true := by
  rw [keepPoint_remove_iff]
  match nogo, h with
  | .single [], _ => simp [Bounds.polys, classify_nil]
  | .many [], _ => simp [Bounds.polys]

theorem kc_prop : pyIndex Gen.plcKeepContourDefault Gen.plcPropContourIdx = .ok true := by decide
theorem kc_nogo : pyIndex Gen.plcKeepContourDefault Gen.plcNogoContourIdx = .ok false := by decide

theorem cutField_ok {prop nogo : Bounds} {tol : Rat} {f : Field} {r : Option Field}
    (h : cutField prop nogo Gen.plcKeepContourDefault tol f = .ok r) :
    r = if cutOf tol prop.polys nogo.polys f = [] then none else some (cutOf tol prop.polys nogo.polys f) := by
  -- the model at the default `keep_contour = [True, False]`
  simp only [cutField, kc_prop, kc_nogo] at h
  split at h
  · cases h
  rename_i new h1
  -- whether the no-go call is made or skipped, its effect is this second filter
  have e1 : cutOf tol prop.polys nogo.polys f = new.filter (keepPoint true false tol nogo.polys) := by
    rw [removeCutout_ok h1, List.filter_filter]; rfl
  rw [e1]
  split_ifs at h with hz hl
  · cases h; rw [List.eq_nil_of_length_eq_zero hz]; rfl
  · split at h
    · cases h
    rename_i new2 h2
    have e2 : new2 = new.filter (keepPoint true false tol nogo.polys) := removeCutout_ok h2
    rw [← e2]
    split_ifs at h with hz2
    · cases h; rw [if_pos (List.eq_nil_of_length_eq_zero hz2)]
    · cases h; rw [if_neg (fun hh => hz2 (by rw [hh]; rfl))]
  · cases h
    rw [List.filter_eq_self.mpr fun a _ => keepPoint_nogo_empty (by omega) tol a,
      if_neg (fun hh => hz (by rw [hh]; rfl))]

theorem cutDomain_ok {prop nogo : Bounds} {tol : Rat} {dom l : List Field}
    (h : cutDomain prop nogo Gen.plcKeepContourDefault tol dom = .ok l) :
    l = cutDom tol prop.polys nogo.polys dom := by
  unfold cutDomain at h
  split at h
  · cases h
  rename_i rs hm
  cases h
  rw [eq_map_of_forall₂ ((Py.mapM_eq_ok.mp hm).imp fun _ _ h => cutField_ok h), cutDom]
  clear hm
  induction dom with
  | nil => rfl
  | cons f fs ih =>
    rw [List.map_cons, List.map_cons, List.filterMap_cons, List.filter_cons, ih]
    by_cases he : cutOf tol prop.polys nogo.polys f = [] <;> simp [he]

/-! ### reorder_domain -/

theorem reorderDomain_ok {δ : Type} {d : List Field} {fd : List δ} {r : List Field × List δ}
    (h : reorderDomain d fd = .ok r) (hlen : d.length ≤ fd.length) :
    d ≠ [] ∧ r.1 = stableSort List.length d ∧
      r.2 = (stableSort (fun x => x.1.length) (List.zip d fd)).map (·.2) := by
  unfold reorderDomain at h
  split at h
  · cases h
  rename_i p ps hz
  cases h
  refine ⟨?_, ?_, ?_⟩
  · rintro rfl
    cases hz
  · rw [← hz, List.unzip_eq_map, stableSort_map List.length (fun (x : Field × δ) => x.1), List.map_fst_zip hlen]
  · rw [← hz, List.unzip_eq_map]

theorem reorderDomain_nil {δ : Type} (fd : List δ) : reorderDomain ([] : List Field) fd = .error .valueError := by
  simp [reorderDomain, stableSort]

theorem reorderAll_ok {δ : Type} {descs : List (List δ)} {ds : List (List Field)} {idx : Nat}
    {rs : List (List Field × List δ)} (h : reorderAll descs idx ds = .ok rs) :
    List.Forall₂ (fun (dfd : List Field × List δ) r => reorderDomain dfd.1 dfd.2 = .ok r)
      (List.zip ds (descs.drop idx)) rs := by
  induction ds generalizing idx rs with
  | nil => cases h; exact .nil
  | cons d ds ih =>
    rw [reorderAll, pyIndex_natCast] at h
    cases hg : descs[idx]? with
    | none => rw [hg] at h; cases h
    | some fd =>
      obtain ⟨hlt, rfl⟩ := List.getElem?_eq_some_iff.mp hg
      rw [hg] at h
      simp only [] at h
      split at h
      · cases h
      rename_i r hr
      split at h
      · cases h
      rename_i rs' hrest
      cases h
      rw [List.drop_eq_getElem_cons hlt, List.zip_cons_cons]
      exact .cons hr (ih hrest)

/-- Everything after `bi_rectangle_nested` (default `keep_contour`) is a map over the candidate lists:
    the cut fields stably sorted by size, and the descriptors zipped to them before the sort. -/
theorem plcCore_ok {nested : List (List Field)} {prop nogo : Bounds} {tol : Rat}
    {out : List (List Field) × List (List Nat)}
    (h : plcCore nested (positions nested) prop nogo Gen.plcKeepContourDefault tol = .ok out) :
    (∀ dom ∈ nested, cutDom tol prop.polys nogo.polys dom ≠ []) ∧
    out.1 = nested.map (fun dom => stableSort List.length (cutDom tol prop.polys nogo.polys dom)) ∧
    out.2 = nested.map (fun dom => (stableSort (fun (x : Field × Nat) => x.1.length)
        (List.zip (cutDom tol prop.polys nogo.polys dom) (List.range dom.length))).map (·.2)) := by
  unfold plcCore at h
  split at h
  · cases h
  rename_i cut hm
  split at h
  · cases h
  rename_i rs hr
  cases h
  have hf := reorderAll_ok hr
  rw [List.drop_zero, eq_map_of_forall₂ ((Py.mapM_eq_ok.mp hm).imp fun _ _ h => cutDomain_ok h),
    positions, List.zip_map', List.forall₂_map_left_iff] at hf
  have hlen : ∀ dom : List Field, (cutDom tol prop.polys nogo.polys dom).length ≤ (List.range dom.length).length := by
    intro dom
    rw [List.length_range, ← List.length_map (as := dom) (f := cutOf tol prop.polys nogo.polys)]
    exact List.length_filter_le _ _
  have hf' := hf.imp fun dom _ hdr => reorderDomain_ok hdr (hlen dom)
  refine ⟨fun dom hd => ?_, eq_map_of_forall₂ (List.forall₂_map_right_iff.mpr (hf'.imp fun _ _ h => h.2.1)),
    eq_map_of_forall₂ (List.forall₂_map_right_iff.mpr (hf'.imp fun _ _ h => h.2.2))⟩
  obtain ⟨_, _, h, _⟩ := forall₂_mem_left hf' dom hd
  exact h

theorem descriptors_of_list (tol : Rat) (props nogos : List Poly) (dom : List Field)
    (hall : ∀ f ∈ dom, cutOf tol props nogos f ≠ []) :
    let S := stableSort (fun (x : Field × Nat) => x.1.length) (List.zip (cutDom tol props nogos dom) (List.range dom.length))
    stableSort List.length (cutDom tol props nogos dom) = (S.map (·.2)).map (fun k => cutOf tol props nogos (dom.getD k [])) ∧
      (S.map (·.2)).Perm (List.range dom.length) := by
  intro S
  have hcd : cutDom tol props nogos dom = dom.map (cutOf tol props nogos) := by
    unfold cutDom
    rw [List.filter_eq_self]
    intro g hg
    rw [List.mem_map] at hg
    obtain ⟨f, hf, rfl⟩ := hg
    simpa using hall f hf
  have hmemS : ∀ x ∈ S, x.1 = cutOf tol props nogos (dom.getD x.2 []) := by
    intro x hx
    rw [mem_stableSort, hcd, List.mem_iff_getElem] at hx
    obtain ⟨i, hi, rfl⟩ := hx
    simp only [List.getElem_zip, List.getElem_map, List.getElem_range]
    rw [List.length_zip, List.length_map, List.length_range, Nat.min_self] at hi
    rw [List.getD_eq_getElem?_getD, List.getElem?_eq_getElem hi]; rfl
  have hfst : stableSort List.length (cutDom tol props nogos dom) = S.map (·.1) := by
    rw [stableSort_map List.length (fun (x : Field × Nat) => x.1), List.map_fst_zip]
    rw [hcd]; simp
  constructor
  · rw [hfst, List.map_map]
    exact List.map_congr_left hmemS
  · have hp := (stableSort_perm (fun (x : Field × Nat) => x.1.length)
        (List.zip (cutDom tol props nogos dom) (List.range dom.length))).map (·.2)
    refine hp.trans ?_
    rw [List.map_snd_zip]
    rw [hcd]; simp

/-! ### the bounding rectangle -/

theorem ratMin_le_left (a b : Rat) : ratMin a b ≤ a := ratMin_eq_min ▸ min_le_left a b

/-- one step of the double loop of `determine_largest_rectangle` -/
def extStep (acc : Option (Rat × Rat × Rat × Rat)) (v : Point) : Option (Rat × Rat × Rat × Rat) :=
  match acc with
  | none => some (v.1, v.2, v.1, v.2)
  | some (x0, y0, x1, y1) => some (ratMin v.1 x0, ratMin v.2 y0, ratMax v.1 x1, ratMax v.2 y1)

theorem extrema_eq (polys : List Poly) : extrema polys = polys.flatten.foldl extStep none := rfl

/-- Once started, the four running extrema are four independent `min` / `max` folds. -/
theorem extFold_eq (l : List Point) (a : Rat × Rat × Rat × Rat) :
    l.foldl extStep (some a) = some ((l.map (·.1)).foldl min a.1, (l.map (·.2)).foldl min a.2.1,
      (l.map (·.1)).foldl max a.2.2.1, (l.map (·.2)).foldl max a.2.2.2) := by
  induction l generalizing a with
  | nil => rfl
  | cons v l ih =>
    rw [List.foldl_cons, extStep, ih, ratMin_eq_min, ratMax_eq_max]
    simp only [List.map_cons, List.foldl_cons, min_comm, max_comm]

theorem extrema_nil_iff (polys : List Poly) : extrema polys = none ↔ polys.flatten = [] := by
  rw [extrema_eq]
  cases polys.flatten with
  | nil => simp
  | cons v l => rw [List.foldl_cons, extStep, extFold_eq]; simp

/-- `length = max(x)`, `width = max(y)` are the largest vertex abscissa / ordinate; the minima play no role. -/
theorem landOf_spec {polys : List Poly} {L W : Rat} (h : landOf polys = some (L, W)) :
    (∀ v ∈ polys.flatten, v.1 ≤ L ∧ v.2 ≤ W) ∧ (∃ v ∈ polys.flatten, v.1 = L) ∧ (∃ v ∈ polys.flatten, v.2 = W) := by
  unfold landOf at h
  rw [extrema_eq] at h
  cases hl : polys.flatten with
  | nil => rw [hl] at h; cases h
  | cons v l =>
    obtain ⟨mx, hx⟩ := foldl_max_spec (l.map (·.1)) v.1
    obtain ⟨my, hy⟩ := foldl_max_spec (l.map (·.2)) v.2
    have hx0 := ((foldl_min_spec (l.map (·.1)) v.1).2 _ List.mem_cons_self).trans (hx _ List.mem_cons_self)
    have hy0 := ((foldl_min_spec (l.map (·.2)) v.2).2 _ List.mem_cons_self).trans (hy _ List.mem_cons_self)
    rw [hl, List.foldl_cons, extStep, extFold_eq] at h
    -- the maxima over the five corners of the outer rectangle are `x_max`, `y_max`
    simp only [outerRectangle, List.map_cons, List.map_nil, pyMaxList, List.foldl_cons, List.foldl_nil, ratMax_eq_max,
      max_eq_right hx0, max_eq_left hx0, max_eq_right hy0, max_eq_left hy0, max_self] at h
    cases h
    refine ⟨fun w hw => ⟨hx _ (List.mem_map_of_mem (f := (·.1)) hw), hy _ (List.mem_map_of_mem (f := (·.2)) hw)⟩,
      ?_, ?_⟩
    · exact List.mem_map.mp (show _ ∈ (v :: l).map (·.1) from mx)
    · exact List.mem_map.mp (show _ ∈ (v :: l).map (·.2) from my)

/-! ### polygonal_land_constraint -/

theorem plc_ok {R : Rat → Rat} {bmin bx by_ : Rat} {props : List Poly} {nogo : Option Bounds}
    {kc : List Bool} {out : List (List Field) × List (List Nat)}
    (h : polygonalLandConstraint R bmin bx by_ (.many props) nogo kc = .ok out) :
    ∃ L W nested, landOf props = some (L, W) ∧ biRectangleNested R L W bmin bx by_ = .ok nested ∧
      plcCore nested (positions nested) (.many props) (nogo.getD (.many [])) kc Gen.cutoutTolDefault = .ok out := by
  unfold polygonalLandConstraint at h
  simp only [] at h
  split at h
  · split at h <;> cases h
  rename_i L W hl
  split at h
  · cases h
  rename_i nested hn
  exact ⟨L, W, nested, hl, hn, h⟩

/-- the outlines a boundary argument stands for after the constructor's normalisation -/
def Bounds.norm : Bounds → List Poly
  | .single [] => []
  | .single (v :: vs) => [v :: vs]
  | .many ps => ps

theorem geomNormalize_ok {b b' : Bounds} (h : geomNormalize b = .ok b') : b' = .many b.norm := by
  match b, h with
  | .single [], h | .single (_ :: _), h | .many [], h | .many ((_ :: _) :: _), h => cases h; rfl

theorem design_ok {R : Rat → Rat} {bmin bx by_ : Rat} {prop nogo : Bounds} {kc : List Bool}
    {out : List (List Field) × List (List Nat)}
    (h : designConstrained R bmin bx by_ prop nogo kc = .ok out) :
    polygonalLandConstraint R bmin bx by_ (.many prop.norm) (some (.many nogo.norm)) kc = .ok out := by
  unfold designConstrained at h
  split at h
  · cases h
  rename_i ng h1
  split at h
  · cases h
  rename_i pr h2
  rwa [geomNormalize_ok h1, geomNormalize_ok h2] at h

/-! ### extent of the tolerance band -/

/-- Ellipse extent, pure real algebra (`u = A − p`, `v = B − p`): with `X = 2(r₁r₂ − u·v) = L² − (r₁ − r₂)²`
    and `Y = 2(r₁r₂ + u·v) = (r₁ + r₂)² − L²`, Lagrange's identity is `4 (u × v)² = X·Y`. -/
theorem band_core (u1 u2 v1 v2 r1 r2 L t : ℝ) (hr1 : 0 ≤ r1) (hr2 : 0 ≤ r2)
    (e1 : r1 * r1 = u1 * u1 + u2 * u2) (e2 : r2 * r2 = v1 * v1 + v2 * v2)
    (eL : L * L = (u1 - v1) * (u1 - v1) + (u2 - v2) * (u2 - v2))
    (h : r1 + r2 < L + t) :
    4 * (u1 * v2 - v1 * u2) ^ 2 ≤ L ^ 2 * (t * (2 * L + t)) := by
  have c := cs2d (-u1) (-u2) v1 v2 r1 r2 hr1 hr2 (by rw [e1]; ring) e2
  have hX : 2 * (r1 * r2 - (u1 * v1 + u2 * v2)) ≤ L * L := by linarith [mul_self_nonneg (r1 - r2)]
  have hY : 2 * (r1 * r2 + (u1 * v1 + u2 * v2)) ≤ t * (2 * L + t) := by
    linarith [mul_self_lt_mul_self (add_nonneg hr1 hr2) h]
  have lag : (r1 * r2) * (r1 * r2) = (u1 * u1 + u2 * u2) * (v1 * v1 + v2 * v2) := by rw [← e1, ← e2]; ring
  linarith [mul_le_mul hX hY (by linarith) (mul_self_nonneg L)]

theorem band_end (a b p : Pt) (t : ℝ) (h : rdist a p + rdist b p < rdist a b + t) :
    -(t * rdist a b) ≤ 2 * (((p.1 - a.1) * (b.1 - a.1) + (p.2 - a.2) * (b.2 - a.2) : ℚ) : ℝ) := by
  have c1 := cs2d ((a.1 : ℝ) - p.1) ((a.2 : ℝ) - p.2) ((b.1 : ℝ) - a.1) ((b.2 : ℝ) - a.2) (rdist a p) (rdist b a)
    (rdist_nonneg _ _) (rdist_nonneg _ _) (rdist_mul_self _ _) (rdist_mul_self _ _)
  have c2 := cs2d ((b.1 : ℝ) - p.1) ((b.2 : ℝ) - p.2) ((b.1 : ℝ) - a.1) ((b.2 : ℝ) - a.2) (rdist b p) (rdist b a)
    (rdist_nonneg _ _) (rdist_nonneg _ _) (rdist_mul_self _ _) (rdist_mul_self _ _)
  have hL := rdist_mul_self b a
  have := mul_le_mul_of_nonneg_right h.le (rdist_nonneg b a)
  rw [rdist_comm a b] at this ⊢
  push_cast
  linarith

/-- A point of the band of `e = (A, B)`, `L = |AB|`: distance from the line of `e` at most `√(t(2L+t))/2`,
    projection at most `t/2` beyond `A` and beyond `B`. -/
theorem band_extent (t : ℚ) (e : Edge) (p : Pt)
    (h : |rdist e.1 p + rdist e.2 p - rdist e.1 e.2| < (t : ℝ)) :
    4 * ((cross e p : ℚ) : ℝ) ^ 2 ≤ (rdist e.1 e.2) ^ 2 * ((t : ℝ) * (2 * rdist e.1 e.2 + (t : ℝ))) ∧
    -((t : ℝ) * rdist e.1 e.2) ≤
      2 * (((p.1 - e.1.1) * (e.2.1 - e.1.1) + (p.2 - e.1.2) * (e.2.2 - e.1.2) : ℚ) : ℝ) ∧
    -((t : ℝ) * rdist e.1 e.2) ≤
      2 * (((p.1 - e.2.1) * (e.1.1 - e.2.1) + (p.2 - e.2.2) * (e.1.2 - e.2.2) : ℚ) : ℝ) := by
  have hlt : rdist e.1 p + rdist e.2 p < rdist e.1 e.2 + (t : ℝ) := by linarith [(abs_lt.mp h).2]
  refine ⟨?_, band_end e.1 e.2 p t hlt, ?_⟩
  · have := band_core ((e.1.1 : ℝ) - p.1) ((e.1.2 : ℝ) - p.2) ((e.2.1 : ℝ) - p.1) ((e.2.2 : ℝ) - p.2)
      (rdist e.1 p) (rdist e.2 p) (rdist e.1 e.2) (t : ℝ) (rdist_nonneg _ _) (rdist_nonneg _ _)
      (rdist_mul_self _ _) (rdist_mul_self _ _) (by rw [rdist_mul_self]; ring) hlt
    unfold cross Gen.ppcCross; push_cast; exact this
  · rw [rdist_comm e.1 e.2]; exact band_end e.2 e.1 p t (by rw [rdist_comm e.2 e.1]; linarith)

end GHEVerif.Constrained
