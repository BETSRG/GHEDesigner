/- The calendar helpers `monthdays`, `first_month_hour`, `last_month_hour` (Gen/Funcs.lean) in
   closed form for a single-year list `[y]`.  `Gen.monthdays` carries its two 13-entry lists of month lengths
   inline (index 0 doubles as December); `monthdays_eq` identifies them with `Gen.numDaysCommon` /
   `Gen.numDaysLeap` by unfolding; facts about their entries are decided. -/
import GHEVerif.Model.Hybrid
import GHEVerif.Lemmas.Py
import Mathlib.Algebra.BigOperators.Ring.List
import Mathlib.Tactic.Ring

namespace GHEVerif.Hybrid
open GHEVerif

def numDays (y : Int) : List Int := if Int.fmod y 4 = 0 then Gen.numDaysLeap else Gen.numDaysCommon

/-- Closed form of `monthdays` (residue 0 is December). -/
def mdays (y : Int) (m : Int) : Int := (numDays y).getD (m % 12).toNat 0

/-- `monthdays` reduces modulo 12 only above 12; on a table whose entry 12 repeats entry 0 that is reducing always. -/
theorem table_index (T : List Int) (hlen : T.length = 13) (h12 : T.getD 12 0 = T.getD 0 0) (m : Int) (hm : 0 ≤ m) :
    pyIndex T (if m > 12 then Int.fmod m 12 else m) = .ok (T.getD (m % 12).toNat 0) := by
  have hf : Int.fmod m 12 = m % 12 := Int.fmod_eq_emod_of_nonneg m (by norm_num)
  by_cases h : m > 12
  · simp only [h, if_true, hf]
    rw [pyIndex_of_nonneg T (m % 12) (by omega) (by omega)]; rfl
  · simp only [h, if_false]
    rw [pyIndex_of_nonneg T m hm (by omega)]
    by_cases h2 : m = 12
    · subst h2; exact congrArg _ h12
    · have : m % 12 = m := by omega
      rw [this]; rfl

theorem monthdays_eq (y : Int) (m : Int) (hm : 0 ≤ m) : Gen.monthdays m y = .ok (mdays y m) := by
  unfold Gen.monthdays
  simp only []
  have e : (if m > 12 then (pyMod m 12 >>= fun q_1 => pure q_1) else pure m : Py Int)
      = pure (if m > 12 then Int.fmod m 12 else m) := by
    by_cases h : m > 12
    · simp [h, pyMod]; rfl
    · simp [h]
  rw [e]
  simp only [pure_bind, bind_pure]
  unfold mdays numDays
  by_cases hl : Int.fmod y 4 = 0
  -- the inline list unfolds to `Gen.numDaysLeap` resp. `Gen.numDaysCommon`
  · simp only [hl, decide_true, if_true]
    exact table_index Gen.numDaysLeap (by decide) (by decide) m hm
  · simp only [hl, decide_false, if_false]
    exact table_index Gen.numDaysCommon (by decide) (by decide) m hm

theorem mdays_one (y : Int) : mdays y 1 = 31 := by
  unfold mdays numDays; split <;> decide

theorem mdays_ge (y i : Int) : 28 ≤ mdays y i := by
  have key : ∀ k < 12, 28 ≤ Gen.numDaysLeap.getD k 0 ∧ 28 ≤ Gen.numDaysCommon.getD k 0 := by decide
  unfold mdays numDays
  split
  · exact (key _ (by omega)).1
  · exact (key _ (by omega)).2

theorem foldlM_acc (f : Int → Int → Py Int) (g : Int → Int) (l : List Int)
    (h : ∀ acc i, i ∈ l → f acc i = .ok (acc + g i)) (a : Int) :
    List.foldlM f a l = .ok (a + (l.map g).sum) := by
  induction l generalizing a with
  | nil => simp [List.foldlM]; rfl
  | cons x xs ih =>
    rw [List.foldlM_cons, h a x (by simp)]
    show List.foldlM f (a + g x) xs = _
    rw [ih (fun acc i hi => h acc i (by simp [hi]))]
    simp [add_assoc]

/-- Days in the first `n` simulated months. -/
def cumDays (y : Int) (n : Nat) : Int := ((pyRange 1 ((n : Int) + 1)).map (mdays y)).sum

theorem cumDays_zero (y : Int) : cumDays y 0 = 0 := by
  unfold cumDays; rw [pyRange_eq_nil.mpr (by omega)]; rfl

theorem cumDays_succ (y : Int) (n : Nat) : cumDays y (n + 1) = cumDays y n + mdays y ((n : Int) + 1) := by
  unfold cumDays
  push_cast
  rw [pyRange_succ 1 ((n : Int) + 1) (by omega)]
  simp

/-- Last hour of simulated month `i` (closed form of `last_month_hour`). -/
def lmh (y i : Int) : Int := 24 * cumDays y i.toNat

theorem lmh_zero (y : Int) : lmh y 0 = 0 := by simp [lmh, cumDays_zero]

theorem lmh_succ (y i : Int) (hi : 1 ≤ i) : lmh y i = lmh y (i - 1) + 24 * mdays y i := by
  obtain ⟨k, hk⟩ := Int.eq_ofNat_of_zero_le (by omega : 0 ≤ i - 1)
  have : i = (k : Int) + 1 := by omega
  subst this
  unfold lmh
  rw [Int.add_sub_cancel, Int.toNat_natCast_add_one, Int.toNat_natCast, cumDays_succ]; ring

theorem lmh_one (y : Int) : lmh y 1 = 744 := by
  rw [lmh_succ y 1 (le_refl _), show (1 : Int) - 1 = 0 from rfl, lmh_zero, mdays_one]; rfl

theorem lmh_lt_succ (y i : Int) (hi : 1 ≤ i) : ((lmh y (i - 1) : Int) : Rat) < ((lmh y i : Int) : Rat) := by
  have := lmh_succ y i hi
  have := mdays_ge y i
  exact_mod_cast (by omega : lmh y (i - 1) < lmh y i)

theorem lmh_nonneg (y i : Int) : 0 ≤ lmh y i := by
  unfold lmh
  generalize i.toNat = n
  induction n with
  | zero => simp [cumDays_zero]
  | succ n ih => rw [cumDays_succ]; have := mdays_ge y ((n : Int) + 1); omega

/-- With one year in the list both month-hour loops read `years[0]`. -/
theorem year_of_single (y : Int) (i : Int) (k : Int → Py Int) :
    ((if ((([y].length : Nat) : Int) > 1) then (pyIndex [y] (Int.fdiv (i - 1) 12) >>= fun x => pure x)
      else (pyIndex [y] (0 : Int) >>= fun x => pure x)) >>= k) = k y := rfl

theorem lastMonthHour_eq (y i : Int) (hi : 0 ≤ i) : Gen.lastMonthHour i [y] = .ok (lmh y i) := by
  obtain ⟨n, rfl⟩ := Int.eq_ofNat_of_zero_le hi
  rw [show lmh y (n : Int) = 24 * cumDays y n by simp [lmh]]
  unfold Gen.lastMonthHour
  simp only []
  rw [foldlM_acc _ (fun i => mdays y i * Gen.HRS_IN_DAY)]
  · show (if (n : Int) = 1 then _ else _) = _
    have e24 : Gen.HRS_IN_DAY = 24 := rfl
    by_cases h1 : (n : Int) = 1
    · have : n = 1 := by omega
      subst this
      simp only [h1, if_true]
      rw [cumDays_succ, cumDays_zero, e24]; simp [mdays_one]; rfl
    · simp only [h1, if_false]
      unfold cumDays
      simp only [e24, mul_comm _ (24 : Int)]
      rw [List.sum_map_mul_left]; simp; rfl
  · intro acc i hi
    rw [year_of_single, monthdays_eq y i (by have := mem_pyRange.mp hi; omega)]; rfl

theorem firstMonthHour_eq (y i : Int) (hi : 1 ≤ i) : Gen.firstMonthHour i [y] = .ok (1 + lmh y (i - 1)) := by
  obtain ⟨k, hk⟩ := Int.eq_ofNat_of_zero_le (by omega : 0 ≤ i - 1)
  rw [hk, show lmh y (k : Int) = 24 * cumDays y k by simp [lmh]]
  unfold Gen.firstMonthHour
  by_cases h1 : i > 1
  · simp only [h1, if_true]
    rw [foldlM_acc _ (fun i => Gen.HRS_IN_DAY * mdays y i)]
    · unfold cumDays
      rw [show Gen.HRS_IN_DAY = 24 from rfl, List.sum_map_mul_left, show i = (k : Int) + 1 by omega]; rfl
    · intro acc j _
      have e : Int.fmod j 12 = j % 12 := Int.fmod_eq_emod_of_nonneg j (by norm_num)
      rw [year_of_single, monthdays_eq y _ (by omega)]
      -- the loop calls `monthdays (i % 12)`; the lookup reduces modulo 12 anyway
      rw [show mdays y (Int.fmod j 12) = mdays y j by unfold mdays; rw [e, Int.emod_emod]]; rfl
  · have : k = 0 := by omega
    subst this
    simp [h1, cumDays_zero]; rfl

/-! ### non-leap years -/

theorem numDays_common (y : Int) (hy : Int.fmod y 4 ≠ 0) : numDays y = Gen.numDaysCommon := by
  simp [numDays, hy]

theorem mdays_nat (y : Int) (hy : Int.fmod y 4 ≠ 0) (n j : Nat) :
    mdays y ((n : Int) + (j : Int)) = Gen.numDaysCommon.getD ((n % 12 + j) % 12) 0 := by
  unfold mdays
  rw [numDays_common y hy]
  congr 1
  omega

theorem cumDays_add (y : Int) (n k : Nat) :
    cumDays y (n + k) = cumDays y n + ((List.range k).map (fun j => mdays y ((n : Int) + ((j + 1 : Nat) : Int)))).sum := by
  induction k with
  | zero => simp
  | succ k ih =>
    rw [← Nat.add_assoc, cumDays_succ, ih, List.range_succ, List.map_append, List.sum_append, List.map_singleton,
      List.sum_singleton, add_assoc, Nat.cast_add, Nat.cast_add, Nat.cast_one, add_assoc]

theorem cumDays_add12 (y : Int) (hy : Int.fmod y 4 ≠ 0) (n : Nat) : cumDays y (n + 12) = cumDays y n + 365 := by
  have year_sum : ∀ r : Nat, r < 12 →
      ((List.range 12).map (fun j => Gen.numDaysCommon.getD ((r + (j + 1)) % 12) 0)).sum = 365 := by decide
  rw [cumDays_add]
  congr 1
  rw [← year_sum (n % 12) (Nat.mod_lt _ (by norm_num))]
  congr 1
  apply List.map_congr_left
  intro j _
  exact mdays_nat y hy n (j + 1)

theorem cumDays_mul12 (y : Int) (hy : Int.fmod y 4 ≠ 0) (q k : Nat) : cumDays y (12 * q + k) = 365 * q + cumDays y k := by
  induction q with
  | zero => simp
  | succ q ih =>
    rw [Nat.mul_add_one, Nat.add_right_comm, cumDays_add12 y hy, ih]; push_cast; ring

theorem cumDays_table (y : Int) (hy : Int.fmod y 4 ≠ 0) (k : Nat) (hk : k ≤ 12) :
    cumDays y k = (Gen.numDaysCommon.tail.take k).sum := by
  have key : ∀ k ≤ 12, ((List.range k).map (fun j => Gen.numDaysCommon.getD ((j + 1) % 12) 0)).sum
      = (Gen.numDaysCommon.tail.take k).sum := by decide
  have h := cumDays_add y 0 k
  rw [cumDays_zero, zero_add, zero_add] at h
  rw [h, ← key k hk]
  congr 1
  apply List.map_congr_left
  intro j _
  rw [mdays_nat y hy 0 (j + 1), Nat.zero_mod, Nat.zero_add]

end GHEVerif.Hybrid
