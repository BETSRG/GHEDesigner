/- Simp sets for running the table interpreters of Model/Config.lean and Model/Cli.lean; filled in Lemmas/Config.lean. -/
import Lean.Meta.Tactic.Simp.RegisterCommand
import Lean.Meta.Tactic.Simp.BuiltinSimprocs

/-- `to_input()` of one object. -/
register_simp_attr obj_eval
/-- `write_input_file`, one statement at a time. -/
register_simp_attr write_eval
/-- A validator on an explicit value, down to `validProp` of each property (not unfolded: lemmas about it apply first). -/
register_simp_attr schema_eval
/-- A setter call on an explicit keyword list. -/
register_simp_attr setter_eval
/-- The worker's simple statements. -/
register_simp_attr worker_eval
/-- The paths through the click callback. -/
register_simp_attr cli_eval
