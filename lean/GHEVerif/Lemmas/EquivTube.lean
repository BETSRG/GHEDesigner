/- The equivalent single U-tube over ℝ: `solve_root` as a closed form in the signs at the bracket ends, the
   equal-volume radii and the enlargement rule, `R_fp(k)` decreasing in the pipe conductivity, the grout solve.
   `solveRoot` here is Model/EquivTube.lean's own transcription of `utilities.solve_root`; Model/Search.lean has
   another one over `Rat` with its own lemmas: the two share nothing. -/
import GHEVerif.Model.EquivTube
import GHEVerif.Lemmas.Py
import Mathlib.Analysis.SpecialFunctions.Log.Basic
import Mathlib.Analysis.SpecialFunctions.Sqrt
import Mathlib.Analysis.SpecialFunctions.Trigonometric.Basic
import Mathlib.Tactic.Linarith
import Mathlib.Tactic.Ring
import Mathlib.Tactic.FieldSimp
import Mathlib.Tactic.Positivity
import Mathlib.Tactic.NormNum

namespace GHEVerif.EquivTube
open GHEVerif

noncomputable def realOps : Ops ℝ :=
  { pi := Real.pi, sqrt := Real.sqrt, log := Real.log, ofRat := fun q => (q : ℝ) }

@[simp] theorem realOps_pi : realOps.pi = Real.pi := rfl
@[simp] theorem realOps_sqrt (x : ℝ) : realOps.sqrt x = Real.sqrt x := rfl
@[simp] theorem realOps_log (x : ℝ) : realOps.log x = Real.log x := rfl
@[simp] theorem realOps_ofRat (q : ℚ) : realOps.ofRat q = (q : ℝ) := rfl

theorem twoPi_real : twoPi realOps = 2 * Real.pi := by
  simp [twoPi]

theorem twoPi_pos : 0 < twoPi realOps := by
  rw [twoPi_real]; positivity

noncomputable def nEq : ℝ := (Gen.eqTubeN : ℝ)

theorem nEq_cast : ((((Gen.eqTubeN : Int) : Rat)) : ℝ) = nEq := by
  simp [nEq]

theorem nEq_two : nEq = 2 := by simp [nEq, Gen.eqTubeN]

theorem nEq_pos : 0 < nEq := by rw [nEq_two]; norm_num

theorem nEqPi_pos : 0 < nEq * Real.pi := mul_pos nEq_pos Real.pi_pos

theorem sgn_real (np : Bool) (v : ℝ) : sgn realOps np v =
    if v < 0 then .ok (-1) else if 0 < v then .ok 1 else .error (if np then .valueError else .zeroDiv) := by
  simp [sgn]

theorem sgn_ok_cases (np : Bool) (v : ℝ) (s : Int) (h : sgn realOps np v = .ok s) :
    (s = -1 ∧ v < 0) ∨ (s = 1 ∧ 0 < v) := by
  rw [sgn_real] at h
  split_ifs at h with a b
  · exact Or.inl ⟨(Except.ok.inj h).symm, a⟩
  · exact Or.inr ⟨(Except.ok.inj h).symm, b⟩

section solve
variable (np : Bool) (brent : (ℝ → ℝ) → ℝ → ℝ → Py (ℝ × ℝ)) (x : ℝ) (f : ℝ → ℝ) (lo hi : ℝ)

theorem solveRoot_eq : solveRoot realOps np brent x f (some lo) (some hi) =
    if f lo = 0 ∨ f hi = 0 then .error (if np then .valueError else .zeroDiv)
    else if f lo < 0 ∧ f hi < 0 then .ok { result := lo, last := hi, branch := .lower }
    else if 0 < f lo ∧ 0 < f hi then .ok { result := hi, last := hi, branch := .upper }
    else brentOutcome (brent f lo hi) := by
  -- rows: the sign of `f lo`; within a row, the sign of `f hi`
  rcases lt_trichotomy (f lo) 0 with a | a | a
  · rcases lt_trichotomy (f hi) 0 with b | b | b
    · simp [solveRoot, sgn_real, a, b, a.ne, b.ne]                          -- − −  lower clamp
    · simp [solveRoot, sgn_real, a, b]                                      -- − 0  raises
    · simp [solveRoot, sgn_real, a, b, a.ne, b.ne', a.not_gt, b.not_gt]     -- − +  Brent
  · simp [solveRoot, sgn_real, a]                                           -- 0 ·  raises
  · rcases lt_trichotomy (f hi) 0 with b | b | b
    · simp [solveRoot, sgn_real, a, b, a.ne', b.ne, a.not_gt, b.not_gt]     -- + −  Brent
    · simp [solveRoot, sgn_real, a, b, a.not_gt]                            -- + 0  raises
    · simp [solveRoot, sgn_real, a, b, a.ne', b.ne', a.not_gt, b.not_gt]    -- + +  upper clamp

end solve

theorem solveRoot_brent {np : Bool} {brent : (ℝ → ℝ) → ℝ → ℝ → Py (ℝ × ℝ)} {x : ℝ} {f : ℝ → ℝ} {lo hi : ℝ}
    (h : f lo * f hi < 0) :
    solveRoot realOps np brent x f (some lo) (some hi) = brentOutcome (brent f lo hi) := by
  rw [solveRoot_eq, if_neg (not_or.mpr (mul_ne_zero_iff.mp h.ne)),
    if_neg fun c => (mul_pos_of_neg_of_neg c.1 c.2).not_gt h, if_neg fun c => (mul_pos c.1 c.2).not_gt h]

theorem brentOutcome_ok (r : Py (ℝ × ℝ)) (s : Solve ℝ) (h : brentOutcome r = .ok s) :
    ∃ x l, r = .ok (x, l) ∧ s = { result := x, last := l, branch := .brent } := by
  cases r with
  | error e => simp [brentOutcome] at h
  | ok p => obtain ⟨x, l⟩ := p; exact ⟨x, l, rfl, by simp [brentOutcome] at h; exact h.symm⟩

/-- Brent's contract for one call: the returned point and the last evaluated point are both within
    `δ` of a root of `f` inside the bracket. -/
def BrentSpec (f : ℝ → ℝ) (lo hi δ : ℝ) (out : ℝ × ℝ) : Prop :=
  ∃ r, lo ≤ r ∧ r ≤ hi ∧ f r = 0 ∧ |out.1 - r| ≤ δ ∧ |out.2 - r| ≤ δ

theorem geom_rIn (rb : ℝ) (v : Vols ℝ) :
    (equivGeometry realOps rb v).rIn = Real.sqrt (v.volFluid / (nEq * Real.pi)) := by
  simp only [equivGeometry, realOps_sqrt, realOps_pi, realOps_ofRat, nEq_cast]

theorem geom_rOut (rb : ℝ) (v : Vols ℝ) :
    (equivGeometry realOps rb v).rOut = Real.sqrt ((v.volFluid + v.volPipe) / (nEq * Real.pi)) := by
  simp only [equivGeometry, realOps_sqrt, realOps_pi, realOps_ofRat, nEq_cast]

theorem nEqPi_mul_sq_sqrt {V : ℝ} (h : 0 ≤ V) : nEq * Real.pi * Real.sqrt (V / (nEq * Real.pi)) ^ 2 = V := by
  rw [Real.sq_sqrt (div_nonneg h nEqPi_pos.le), mul_div_cancel₀ _ nEqPi_pos.ne']

/-- `hF`, `hP` let a caller hand in the closed form of its exchanger type. -/
theorem geom_volumes (rb : ℝ) (v : Vols ℝ) {F P : ℝ} (hF : v.volFluid = F) (hP : v.volPipe = P) (h0 : 0 ≤ F)
    (h1 : 0 ≤ P) :
    nEq * Real.pi * (equivGeometry realOps rb v).rIn ^ 2 = F ∧
    nEq * Real.pi * ((equivGeometry realOps rb v).rOut ^ 2 - (equivGeometry realOps rb v).rIn ^ 2) = P := by
  subst hF hP
  rw [mul_sub, geom_rIn, geom_rOut, nEqPi_mul_sq_sqrt h0, nEqPi_mul_sq_sqrt (add_nonneg h0 h1), add_sub_cancel_left]
  exact ⟨rfl, rfl⟩

theorem sq_sub_sq_nonneg {a b : ℝ} (h0 : 0 ≤ a) (h : a ≤ b) : 0 ≤ b ^ 2 - a ^ 2 :=
  sub_nonneg.mpr (pow_le_pow_left₀ h0 h 2)

theorem uTubeVolumes_real (nPipes : ℕ) (rIn rOut hF kP : ℝ) :
    (uTubeVolumes realOps nPipes rIn rOut hF kP).volFluid = ((nPipes * Gen.tubesPerU : ℕ) : ℝ) * Real.pi * rIn ^ 2 ∧
    (uTubeVolumes realOps nPipes rIn rOut hF kP).volPipe
      = ((nPipes * Gen.tubesPerU : ℕ) : ℝ) * Real.pi * (rOut ^ 2 - rIn ^ 2) := by
  simp only [uTubeVolumes, realOps_pi, realOps_ofRat]
  push_cast
  exact ⟨by ring, by ring⟩

theorem concentricTubeVolumes_real (rii rio roi roo hFa kO : ℝ) :
    (concentricTubeVolumes realOps rii rio roi roo hFa kO).volFluid = Real.pi * rii ^ 2 + Real.pi * (roi ^ 2 - rio ^ 2) ∧
    (concentricTubeVolumes realOps rii rio roi roo hFa kO).volPipe
      = Real.pi * (rio ^ 2 - rii ^ 2) + Real.pi * (roo ^ 2 - roi ^ 2) := by
  simp only [concentricTubeVolumes, realOps_pi]
  exact ⟨by ring, by ring⟩

theorem geom_rIn_pos (rb : ℝ) (v : Vols ℝ) (h : 0 < v.volFluid) : 0 < (equivGeometry realOps rb v).rIn := by
  rw [geom_rIn]; exact Real.sqrt_pos.mpr (div_pos h nEqPi_pos)

theorem geom_rIn_lt_rOut (rb : ℝ) (v : Vols ℝ) (h : 0 ≤ v.volFluid) (hp : 0 < v.volPipe) :
    (equivGeometry realOps rb v).rIn < (equivGeometry realOps rb v).rOut := by
  rw [geom_rIn, geom_rOut]
  apply Real.sqrt_lt_sqrt (div_nonneg h nEqPi_pos.le)
  apply div_lt_div_of_pos_right _ nEqPi_pos
  linarith

theorem enlarge_real (rb rPo : ℝ) :
    enlarge realOps rb rPo =
      if rb * 2 - nEq * rPo * 2 ≤ 0 then
        ((rb - (rb * 2 - nEq * rPo * 2)) + (rb - (rb * 2 - nEq * rPo * 2)) * 2 / (Gen.enlargeDiv : ℝ),
          (rb - (rb * 2 - nEq * rPo * 2)) * 2 / (Gen.enlargeDiv : ℝ), true)
      else (rb, rb * 2 - nEq * rPo * 2, false) := by
  simp only [enlarge, realOps_ofRat, nEq_cast, Rat.cast_ofNat, Rat.cast_zero]

theorem geom_fields (rb : ℝ) (v : Vols ℝ) :
    let g := equivGeometry realOps rb v
    g.rB = (enlarge realOps rb g.rOut).1 ∧ g.spacing = (enlarge realOps rb g.rOut).2.1 ∧
    g.enlarged = (enlarge realOps rb g.rOut).2.2 ∧
    g.s = g.spacing / (Gen.shankDiv : ℝ) ∧ g.shank = g.s / 2 + g.rOut :=
  ⟨rfl, rfl, rfl, rfl, by simp only [equivGeometry, realOps_ofRat, Rat.cast_ofNat]⟩

theorem geom_closed (rb : ℝ) (v : Vols ℝ) :
    let g := equivGeometry realOps rb v
    (rb * 2 - 2 * g.rOut * 2 ≤ 0 →
        g.rB = (4 * g.rOut - rb) * (6 / 5) ∧ g.spacing = (4 * g.rOut - rb) / 5 ∧ g.enlarged = true) ∧
    (0 < rb * 2 - 2 * g.rOut * 2 →
        g.rB = rb ∧ g.spacing = rb * 2 - 4 * g.rOut ∧ g.enlarged = false) ∧
    g.s = g.spacing / 3 ∧ g.shank = g.spacing / 6 + g.rOut := by
  obtain ⟨h1, h2, h3, h4, h5⟩ := geom_fields rb v
  have hd : (Gen.enlargeDiv : ℝ) = 10 := by simp [Gen.enlargeDiv]
  have hs : (Gen.shankDiv : ℝ) = 3 := by simp [Gen.shankDiv]
  dsimp only at h1 h2 h3 h4 h5 ⊢
  rw [h5, h4, h1, h2, h3, enlarge_real, nEq_two, hd, hs]
  refine ⟨fun hle => ?_, fun hlt => ?_, rfl, by ring⟩
  · rw [if_pos hle]
    exact ⟨by ring, by ring, rfl⟩
  · rw [if_neg (not_le.mpr hlt)]
    exact ⟨rfl, by ring, rfl⟩

theorem geom_fits (rb : ℝ) (v : Vols ℝ)
    (hro : 0 < (equivGeometry realOps rb v).rOut) :
    let g := equivGeometry realOps rb v
    0 < g.s ∧ g.shank + g.rOut ≤ g.rB ∧ g.rOut < g.shank ∧ rb ≤ g.rB := by
  obtain ⟨hA, hB, hs, hsh⟩ := geom_closed rb v
  dsimp only at hA hB hs hsh ⊢
  rw [hs, hsh]
  generalize (equivGeometry realOps rb v).rOut = r at *
  rcases le_or_gt (rb * 2 - 2 * r * 2) 0 with hle | hlt
  · obtain ⟨e1, e2, _⟩ := hA hle
    rw [e1, e2]
    exact ⟨by linarith only [hle, hro], by linarith only [hle, hro], by linarith only [hle, hro],
      by linarith only [hle, hro]⟩
  · obtain ⟨e1, e2, _⟩ := hB hlt
    rw [e1, e2]
    exact ⟨by linarith only [hlt], by linarith only [hlt, hro], by linarith only [hlt], le_rfl⟩

theorem pipeR_real (rIn rOut k : ℝ) : pipeR realOps rIn rOut k = Real.log (rOut / rIn) / (2 * Real.pi * k) := by
  simp [pipeR, twoPi_real]

theorem fluidR_real (h r : ℝ) : fluidR realOps h r = 1 / (h * (2 * Real.pi) * r) := by
  rw [fluidR, twoPi_real, realOps_ofRat, Rat.cast_one]

theorem logRatio_pos {rIn rOut : ℝ} (h0 : 0 < rIn) (h1 : rIn < rOut) : 0 < Real.log (rOut / rIn) :=
  Real.log_pos ((one_lt_div h0).mpr h1)

theorem pipeR_pos {rIn rOut k : ℝ} (h0 : 0 < rIn) (h1 : rIn < rOut) (hk : 0 < k) : 0 < pipeR realOps rIn rOut k := by
  rw [pipeR_real]; exact div_pos (logRatio_pos h0 h1) (by positivity)

theorem pipeR_strictAnti {rIn rOut k1 k2 : ℝ} (h0 : 0 < rIn) (h1 : rIn < rOut) (hk1 : 0 < k1) (hk : k1 < k2) :
    pipeR realOps rIn rOut k2 < pipeR realOps rIn rOut k1 := by
  rw [pipeR_real, pipeR_real]
  apply div_lt_div_of_pos_left (logRatio_pos h0 h1) (by positivity)
  exact mul_lt_mul_of_pos_left hk (by positivity)

theorem pipeR_sub {rIn rOut k r : ℝ} (hk : 0 < k) (hr : 0 < r) :
    pipeR realOps rIn rOut k - pipeR realOps rIn rOut r = pipeR realOps rIn rOut k * ((r - k) / r) := by
  rw [pipeR_real, pipeR_real]
  generalize Real.log (rOut / rIn) = L
  field_simp

theorem pipeR_close {rIn rOut k r δ : ℝ} (h0 : 0 < rIn) (h1 : rIn < rOut) (hδk : δ < k)
    (hkr : |k - r| ≤ δ) :
    |pipeR realOps rIn rOut k - pipeR realOps rIn rOut r| ≤ pipeR realOps rIn rOut k * (δ / (k - δ)) := by
  have hδ0 : 0 ≤ δ := le_trans (abs_nonneg _) hkr
  have hk : 0 < k := lt_of_le_of_lt hδ0 hδk
  have hkd : 0 < k - δ := sub_pos.mpr hδk
  have hb : k - δ ≤ r := sub_le_comm.mp (abs_le.mp hkr).2
  have hr : 0 < r := hkd.trans_le hb
  rw [pipeR_sub hk hr, abs_mul, abs_of_pos (pipeR_pos h0 h1 hk)]
  apply mul_le_mul_of_nonneg_left _ (pipeR_pos h0 h1 hk).le
  rw [abs_div, abs_of_pos hr]
  have h2 : |r - k| ≤ δ := (abs_sub_comm r k).trans_le hkr
  calc |r - k| / r ≤ δ / r := div_le_div_of_nonneg_right h2 hr.le
    _ ≤ δ / (k - δ) := div_le_div_of_nonneg_left hδ0 hkd hb

theorem geom_kPipe0 (rb : ℝ) (v : Vols ℝ) :
    (equivGeometry realOps rb v).kPipe0 = Real.log ((equivGeometry realOps rb v).rOut / (equivGeometry realOps rb v).rIn)
      / (2 * Real.pi * nEq * v.resistPipe) := by
  simp only [equivGeometry, realOps_log, realOps_ofRat, nEq_cast, twoPi_real]

theorem geom_kPipe0_pos (rb : ℝ) (v : Vols ℝ) (hf : 0 < v.volFluid) (hp : 0 < v.volPipe) (hr : 0 < v.resistPipe) :
    0 < (equivGeometry realOps rb v).kPipe0 := by
  rw [geom_kPipe0]
  have := nEq_pos
  exact div_pos (logRatio_pos (geom_rIn_pos rb v hf) (geom_rIn_lt_rOut rb v hf.le hp)) (by positivity)

noncomputable def eqRf (hConv : ℝ → ℝ) (rb : ℝ) (v : Vols ℝ) : ℝ :=
  fluidR realOps (hConv (equivGeometry realOps rb v).rIn) (equivGeometry realOps rb v).rIn

noncomputable def eqRfp (hConv : ℝ → ℝ) (rb : ℝ) (v : Vols ℝ) (k : ℝ) : ℝ :=
  eqRf hConv rb v + pipeR realOps (equivGeometry realOps rb v).rIn (equivGeometry realOps rb v).rOut k

noncomputable def kpLo (rb : ℝ) (v : Vols ℝ) : ℝ := (equivGeometry realOps rb v).kPipe0 / (Gen.kpLowerDiv : ℝ)
noncomputable def kpHi (rb : ℝ) (v : Vols ℝ) : ℝ := (equivGeometry realOps rb v).kPipe0 * (Gen.kpUpperMul : ℝ)

theorem kpLo_eq (rb : ℝ) (v : Vols ℝ) : kpLo rb v = (1 / 100) * (equivGeometry realOps rb v).kPipe0 := by
  unfold kpLo; simp [Gen.kpLowerDiv]; ring

theorem kpHi_eq (rb : ℝ) (v : Vols ℝ) : kpHi rb v = 10 * (equivGeometry realOps rb v).kPipe0 := by
  unfold kpHi; simp [Gen.kpUpperMul]; ring

theorem kpLo_pos (rb : ℝ) (v : Vols ℝ) (h : 0 < (equivGeometry realOps rb v).kPipe0) : 0 < kpLo rb v := by
  rw [kpLo_eq]; positivity

theorem kpHi_pos (rb : ℝ) (v : Vols ℝ) (h : 0 < (equivGeometry realOps rb v).kPipe0) : 0 < kpHi rb v := by
  rw [kpHi_eq]; positivity

theorem kpLo_lt_kpHi (rb : ℝ) (v : Vols ℝ) (h : 0 < (equivGeometry realOps rb v).kPipe0) : kpLo rb v < kpHi rb v := by
  rw [kpLo_eq, kpHi_eq]; linarith

theorem eqRf_lt_eqRfp (hConv : ℝ → ℝ) (rb : ℝ) (v : Vols ℝ) (hf : 0 < v.volFluid) (hp : 0 < v.volPipe) {k : ℝ}
    (hk : 0 < k) : eqRf hConv rb v < eqRfp hConv rb v k :=
  lt_add_of_pos_right _ (pipeR_pos (geom_rIn_pos rb v hf) (geom_rIn_lt_rOut rb v hf.le hp) hk)

theorem eqRfp_strictAnti (hConv : ℝ → ℝ) (rb : ℝ) (v : Vols ℝ) (hf : 0 < v.volFluid) (hp : 0 < v.volPipe) {k1 k2 : ℝ}
    (hk1 : 0 < k1) (hk : k1 < k2) : eqRfp hConv rb v k2 < eqRfp hConv rb v k1 :=
  add_lt_add_right (pipeR_strictAnti (geom_rIn_pos rb v hf) (geom_rIn_lt_rOut rb v hf.le hp) hk1 hk) _

theorem eqRfp_at_multiple (hConv : ℝ → ℝ) (rb : ℝ) (v : Vols ℝ) (hf : 0 < v.volFluid) (hp : 0 < v.volPipe)
    (c : ℝ) (hc : 0 < c) :
    eqRfp hConv rb v (c * (equivGeometry realOps rb v).kPipe0) = eqRf hConv rb v + nEq * v.resistPipe / c := by
  have hL := logRatio_pos (geom_rIn_pos rb v hf) (geom_rIn_lt_rOut rb v hf.le hp)
  unfold eqRfp
  rw [pipeR_real, geom_kPipe0]
  have := nEq_pos
  congr 1
  generalize Real.log _ = L at hL ⊢
  field_simp [hc.ne', hL.ne']

theorem equivalentSingleUTube_eq (fl : Flags) (brent : (ℝ → ℝ) → ℝ → ℝ → Py (ℝ × ℝ)) (hConv : ℝ → ℝ)
    (rb kg0 : ℝ) (v : Vols ℝ) :
    equivalentSingleUTube realOps fl brent hConv rb kg0 v =
      (solveRoot realOps fl.numpy brent (equivGeometry realOps rb v).kPipe0
          (fun k => eqRfp hConv rb v k - (v.resistConv + v.resistPipe)) (some (kpLo rb v)) (some (kpHi rb v))).map
        (fun sol => (pipeTube realOps fl hConv rb kg0 v sol, sol)) := by
  rfl

theorem pipeTube_rFp (fl : Flags) (hConv : ℝ → ℝ) (rb kg0 : ℝ) (v : Vols ℝ) (sol : Solve ℝ) :
    (pipeTube realOps fl hConv rb kg0 v sol).rFp = eqRfp hConv rb v sol.last := rfl

theorem pipeTube_kPipe (fl : Flags) (hConv : ℝ → ℝ) (rb kg0 : ℝ) (v : Vols ℝ) (sol : Solve ℝ) :
    (pipeTube realOps fl hConv rb kg0 v sol).kPipe = if fl.pipeResultUsed then sol.result else sol.last := rfl

theorem pipeTube_circ (fl : Flags) (hConv : ℝ → ℝ) (rb kg0 : ℝ) (v : Vols ℝ) (sol : Solve ℝ) :
    (pipeTube realOps fl hConv rb kg0 v sol).circKg = kg0 ∧ (pipeTube realOps fl hConv rb kg0 v sol).kGrout = kg0 ∧
    (pipeTube realOps fl hConv rb kg0 v sol).circRfp =
      if fl.pipeRefresh then eqRfp hConv rb v sol.last else eqRfp hConv rb v (equivGeometry realOps rb v).kPipe0 :=
  ⟨rfl, rfl, rfl⟩

noncomputable def kgLo : ℝ := (Gen.kgLower : ℝ)
noncomputable def kgHi : ℝ := (Gen.kgUpper : ℝ)

theorem kgLo_eq : kgLo = 1 / 100 := by
  unfold kgLo; simp [Gen.kgLower]

theorem kgHi_eq : kgHi = 7 := by
  unfold kgHi; simp [Gen.kgUpper]

theorem kgLo_lt_kgHi : kgLo < kgHi := by
  rw [kgLo_eq, kgHi_eq]; norm_num

theorem matchRb_eq (fl : Flags) (brent : (ℝ → ℝ) → ℝ → ℝ → Py (ℝ × ℝ)) (Rb : ℝ → ℝ → ℝ) (T : ℝ) (t : Tube ℝ) :
    matchEffectiveBoreholeResistance realOps fl brent Rb T t =
      (solveRoot realOps fl.numpy brent t.kGrout (groutObjective fl Rb T t) (some kgLo) (some kgHi)).map
        (fun sol => (groutTube fl t sol, sol)) := rfl

theorem groutObjective_norefresh (fl : Flags) (h : fl.groutRefresh = false) (Rb : ℝ → ℝ → ℝ) (T : ℝ) (t : Tube ℝ) (k : ℝ) :
    groutObjective fl Rb T t k = T - t.rb Rb := by
  simp [groutObjective, h, Tube.rb]

theorem groutObjective_refresh (fl : Flags) (h : fl.groutRefresh = true) (Rb : ℝ → ℝ → ℝ) (T : ℝ) (t : Tube ℝ) (k : ℝ) :
    groutObjective fl Rb T t k = T - Rb k t.rFp := by
  simp [groutObjective, h]

/-- Without a refresh the objective is the constant `T − R_b'`. -/
theorem matchRb_norefresh (fl : Flags) (h : fl.groutRefresh = false) (brent : (ℝ → ℝ) → ℝ → ℝ → Py (ℝ × ℝ))
    (Rb : ℝ → ℝ → ℝ) (T : ℝ) (t : Tube ℝ) :
    matchEffectiveBoreholeResistance realOps fl brent Rb T t =
      if T - t.rb Rb = 0 then .error (if fl.numpy then .valueError else .zeroDiv)
      else if T - t.rb Rb < 0 then .ok (groutTube fl t ⟨kgLo, kgHi, .lower⟩, ⟨kgLo, kgHi, .lower⟩)
      else .ok (groutTube fl t ⟨kgHi, kgHi, .upper⟩, ⟨kgHi, kgHi, .upper⟩) := by
  rw [matchRb_eq, solveRoot_eq]
  simp only [groutObjective_norefresh fl h, or_self, and_self]
  rcases lt_trichotomy (T - t.rb Rb) 0 with a | a | a
  · simp [a, a.ne, Except.map]
  · simp [a, Except.map]
  · simp [a, a.ne', a.not_gt, Except.map]

theorem groutTube_rb_norefresh (fl : Flags) (h : fl.groutRefresh = false) (Rb : ℝ → ℝ → ℝ) (t : Tube ℝ) (sol : Solve ℝ) :
    (groutTube fl t sol).rb Rb = t.rb Rb := by
  simp [groutTube, h, Tube.rb]

theorem groutTube_rb_refresh (fl : Flags) (h : fl.groutRefresh = true) (Rb : ℝ → ℝ → ℝ) (t : Tube ℝ) (sol : Solve ℝ) :
    (groutTube fl t sol).rb Rb = Rb sol.last t.rFp := by
  simp [groutTube, h, Tube.rb]

theorem groutTube_kGrout (fl : Flags) (t : Tube ℝ) (sol : Solve ℝ) :
    (groutTube fl t sol).kGrout = if fl.groutResultUsed then sol.result else sol.last := rfl

theorem toSingle_multi (fl : Flags) (brentP brentG : (ℝ → ℝ) → ℝ → ℝ → Py (ℝ × ℝ)) (hConv : ℝ → ℝ)
    (Rb : ℝ → ℝ → ℝ) (v : Vols ℝ) (rb kg0 T : ℝ) :
    toSingle realOps fl brentP brentG hConv Rb (.multi v rb kg0 T) =
      equivalentSingleUTube realOps fl brentP hConv rb kg0 v >>=
        fun p => (matchEffectiveBoreholeResistance realOps fl brentG Rb T p.1).map (·.1) := rfl

/-- A convection correlation under which the equivalent tube has `R_f' = 1` (for the examples). -/
noncomputable def hOne : ℝ → ℝ := fun r => 1 / (2 * Real.pi * r)

theorem eqRf_hOne (rb : ℝ) (v : Vols ℝ) (hf : 0 < v.volFluid) : eqRf hOne rb v = 1 := by
  unfold eqRf hOne
  rw [fluidR_real]
  have := geom_rIn_pos rb v hf
  field_simp

end GHEVerif.EquivTube
