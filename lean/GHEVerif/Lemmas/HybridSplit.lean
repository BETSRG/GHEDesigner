/- `split_loads_by_month`: what the monthly statistics are when it succeeds (C06), and that it
   succeeds on every profile that covers the year. -/
import GHEVerif.Model.Hybrid
import GHEVerif.Lemmas.Py
import Mathlib.Tactic.LinearCombination

namespace GHEVerif.Hybrid
open GHEVerif

theorem sum_rej_sub_ext (l : List Rat) : (l.map rejection).sum - (l.map extraction).sum = -l.sum / 1000 := by
  induction l with
  | nil => simp
  | cons a l ih =>
    have : rejection a - extraction a = -a / 1000 := by
      unfold rejection extraction
      rw [ratAbs_eq_abs]
      by_cases h : a < 0
      · rw [if_pos h, if_neg (not_le.mpr h), abs_of_neg h, sub_zero]
      · rw [if_neg h, if_pos (not_lt.mp h), zero_sub, neg_div]
    simp only [List.map_cons, List.sum_cons]
    linear_combination this + ih

theorem pySlice_map (f : Rat → Rat) (l : List Rat) (a n : Nat) : pySlice (l.map f) a n = (pySlice l a n).map f := by
  unfold pySlice; simp [List.map_take, List.map_drop]

theorem statOf_totals {rej ext : List Rat} {s : MonthStat} (h : statOf rej ext = .ok s) :
    s.cl = rej.sum ∧ s.hl = ext.sum ∧ pyMax rej = .ok s.pcl ∧ pyMax ext = .ok s.phl := by
  dsimp only [statOf] at h
  obtain ⟨pcl, h1, h⟩ := Py.bind_eq_ok.mp h
  obtain ⟨phl, h2, h⟩ := Py.bind_eq_ok.mp h
  obtain ⟨_, _, h⟩ := Py.bind_eq_ok.mp h
  obtain ⟨_, _, h⟩ := Py.bind_eq_ok.mp h
  cases h
  exact ⟨rfl, rfl, h1, h2⟩

/-- Hours before entry `k` of a list of month lengths (days). -/
def hoursBefore (ds : List Int) (k : Nat) : Nat := ((ds.take k).map (fun d => (Gen.HRS_IN_DAY * d).toNat)).sum

theorem splitAux_spec {rej ext : List Rat} {ds : List Int} : ∀ {prev : Nat} {out : List MonthStat},
    splitAux rej ext prev ds = .ok out →
    out.length = ds.length ∧ ∀ k (hk : k < ds.length) (hk' : k < out.length),
      statOf (pySlice rej (prev + hoursBefore ds k) (Gen.HRS_IN_DAY * ds[k]).toNat)
             (pySlice ext (prev + hoursBefore ds k) (Gen.HRS_IN_DAY * ds[k]).toNat) = .ok out[k] := by
  induction ds with
  | nil =>
    intro prev out h
    cases h
    simp
  | cons d ds ih =>
    intro prev out h
    dsimp only [splitAux] at h
    obtain ⟨s, h1, h⟩ := Py.bind_eq_ok.mp h
    obtain ⟨rest, h2, h⟩ := Py.bind_eq_ok.mp h
    cases h
    obtain ⟨l1, l2⟩ := ih h2
    refine ⟨by simp [l1], ?_⟩
    intro k hk hk'
    cases k with
    | zero => simpa [hoursBefore] using h1
    | succ k =>
      have := l2 k (by simpa using hk) (by simpa using hk')
      simp only [List.getElem_cons_succ]
      rw [← this]
      simp only [hoursBefore, List.take_succ_cons, List.map_cons, List.sum_cons, Nat.add_assoc]

theorem statOf_ok (rej ext : List Rat) (hr : rej ≠ []) (he : ext ≠ []) : ∃ s, statOf rej ext = .ok s := by
  obtain ⟨a, as, rfl⟩ := List.exists_cons_of_ne_nil hr
  obtain ⟨b, bs, rfl⟩ := List.exists_cons_of_ne_nil he
  have h1 : (((a :: as).length : Nat) : Rat) ≠ 0 := by simp [List.length_cons]; positivity
  have h2 : (((b :: bs).length : Nat) : Rat) ≠ 0 := by simp [List.length_cons]; positivity
  simp only [statOf, pyMax, pyDiv_ok h1, pyDiv_ok h2]
  exact ⟨_, rfl⟩

/-- With positive month lengths and enough hours every month's slice is non-empty. -/
theorem splitAux_ok (rej ext : List Rat) (ds : List Int) (hpos : ∀ d ∈ ds, 0 < d) : ∀ prev : Nat,
    prev + hoursBefore ds ds.length ≤ rej.length → prev + hoursBefore ds ds.length ≤ ext.length →
    ∃ out, splitAux rej ext prev ds = .ok out := by
  induction ds with
  | nil => intro _ _ _; exact ⟨[], rfl⟩
  | cons d ds ih =>
    intro prev h1 h2
    have hd : 0 < (Gen.HRS_IN_DAY * d).toNat := by
      have := hpos d List.mem_cons_self; rw [show Gen.HRS_IN_DAY = 24 from rfl]; omega
    simp only [hoursBefore, List.length_cons, List.take_succ_cons, List.map_cons, List.sum_cons] at h1 h2
    have hb : hoursBefore ds ds.length = ((ds.take ds.length).map (fun d => (Gen.HRS_IN_DAY * d).toNat)).sum := rfl
    obtain ⟨s, hs⟩ := statOf_ok (pySlice rej prev (Gen.HRS_IN_DAY * d).toNat) (pySlice ext prev (Gen.HRS_IN_DAY * d).toNat)
      (by rw [← List.length_pos_iff, pySlice, List.length_take, List.length_drop]; omega)
      (by rw [← List.length_pos_iff, pySlice, List.length_take, List.length_drop]; omega)
    obtain ⟨rest, hrest⟩ := ih (fun x hx => hpos x (by simp [hx])) (prev + (Gen.HRS_IN_DAY * d).toNat)
      (by rw [hb]; omega) (by rw [hb]; omega)
    exact ⟨s :: rest, by simp only [splitAux, hs, hrest]; rfl⟩

theorem splitByMonth_ok (y : Int) (raw : List Rat) (h : hoursBefore (calDays y).tail 12 ≤ raw.length) :
    ∃ stats, splitByMonth y raw = .ok stats := by
  obtain ⟨ms, hms⟩ := splitAux_ok (raw.map rejection) (raw.map extraction) (calDays y).tail
    (by unfold calDays; cases isLeapGreg y <;> decide)
    0 (by simpa [calDays] using h) (by simpa [calDays] using h)
  exact ⟨MonthStat.null :: ms, by simp only [splitByMonth, hms]; rfl⟩

end GHEVerif.Hybrid
