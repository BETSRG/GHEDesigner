/- The table interpreters of Model/Config.lean on a complete manager state `x : Parts`: the API calls build one (`build_eq`),
   the writer writes `inputOf A x` (`toInput_eq`), the validators accept it (`validate_inputOf`), the worker reloads it
   (`worker_inputOf`); then the exit status of Model/Cli.lean. -/
import GHEVerif.Model.Config
import GHEVerif.Model.Cli
import GHEVerif.Lemmas.ConfigAttr

namespace GHEVerif.Config
open GHEVerif GHEVerif.Gen

/-! ### What the statements speak of: the property statements of C17/C18 and the state-level lemmas below -/

/-- True of IEEE doubles unless the halving underflows or the doubling overflows. -/
structure Arith.Exact (A : Arith) : Prop where
  dbl_half : ∀ x, A.dbl (A.half x) = x
  half_dbl : ∀ x, A.half (A.dbl x) = x

theorem exactArith_exact : exactArith.Exact :=
  ⟨fun x => Rat.div_mul_cancel (by decide), fun x => Rat.mul_div_cancel (by decide)⟩

/-- What `geometric_*.schema.json` asks of a boundary: points of exactly two numbers ≥ 0. -/
def PointOk (pt : List Rat) : Prop := pt.length = 2 ∧ ∀ q ∈ pt, 0 ≤ q
def PolyOk (p : List (List Rat)) : Prop := ∀ pt ∈ p, PointOk pt
def PolysOk (ps : List (List (List Rat))) : Prop := ∀ p ∈ ps, PolyOk p

/-- The constrained geometry's constructor indexes `[0][0]`: no empty polygon, no empty point. -/
def PolysShape (ps : List (List (List Rat))) : Prop := ∀ p ∈ ps, p ≠ [] ∧ ∀ pt ∈ p, pt ≠ []

/-- The ranges of `pipe_*.schema.json`, on the setters' arguments. -/
def PipeArgsValid : PipeArgs → Prop
  | .single a b s r k c => 0 ≤ a ∧ 0 ≤ b ∧ 0 ≤ s ∧ 0 ≤ r ∧ 0 ≤ k ∧ 0 ≤ c
  | .doublePar a b s r k c => 0 ≤ a ∧ 0 ≤ b ∧ 0 ≤ s ∧ 0 ≤ r ∧ 0 ≤ k ∧ 0 ≤ c
  | .doubleSer a b s r k c => 0 ≤ a ∧ 0 ≤ b ∧ 0 ≤ s ∧ 0 ≤ r ∧ 0 ≤ k ∧ 0 ≤ c
  | .coaxial a b c d r ki ko rc => 0 ≤ a ∧ 0 ≤ b ∧ 0 ≤ c ∧ 0 ≤ d ∧ 0 ≤ r ∧ 0 ≤ ki ∧ 0 ≤ ko ∧ 0 ≤ rc

/-- The same for `geometric_*.schema.json`; constrained: also `PolysShape`. -/
def GeomArgsValid : GeomArgs → Prop
  | .nearSquare b l => 0 ≤ b ∧ 0 ≤ l
  | .rectangle l w bmin bmax => 0 ≤ l ∧ 0 ≤ w ∧ 0 ≤ bmin ∧ 0 ≤ bmax
  | .biRectangle l w bmin bx by' => 0 ≤ l ∧ 0 ≤ w ∧ 0 ≤ bmin ∧ 0 ≤ bx ∧ 0 ≤ by'
  | .biZoned l w bmin bx by' => 0 ≤ l ∧ 0 ≤ w ∧ 0 ≤ bmin ∧ 0 ≤ bx ∧ 0 ≤ by'
  | .constrained bmin bx by' pb ng => 0 ≤ bmin ∧ 0 ≤ bx ∧ 0 ≤ by' ∧ PolysOk pb ∧ PolysOk ng ∧ PolysShape pb ∧ PolysShape ng
  | .rowWise ratio maxSp minSp step maxRot minRot _ pb ng =>
      (∀ r, ratio = some r → 0 ≤ r) ∧ 0 ≤ maxSp ∧ 0 ≤ minSp ∧ 0 ≤ step ∧ -90 ≤ maxRot ∧ maxRot ≤ 90 ∧ -90 ≤ minRot ∧ minRot ≤ 90 ∧
      PolyOk pb ∧ PolysOk ng

def GeomArgsShape : GeomArgs → Prop
  | .constrained _ _ _ pb ng => PolysShape pb ∧ PolysShape ng
  | _ => True

/-- The documented domain of the API arguments (the setters themselves check only the two enum names). -/
structure ApiValid (c : Config) : Prop where
  fluid : ∃ ft, FluidType.ofName (upper c.fluidName) = some ft
  flowType : ∃ fl, FlowCfg.ofName (upper c.flowType) = some fl
  percent0 : 0 ≤ c.percent
  percent60 : c.percent ≤ 60
  groutK : 0 ≤ c.groutK
  groutRc : 0 ≤ c.groutRhoCp
  soilK : 0 ≤ c.soilK
  soilRc : 0 ≤ c.soilRhoCp
  pipe : PipeArgsValid c.pipe
  depth : 0 ≤ c.buriedDepth
  months : 1 ≤ c.numMonths
  maxH : 0 ≤ c.maxHeight
  minH : 0 ≤ c.minHeight
  geom : GeomArgsValid c.geom
  flow : 0 ≤ c.flowRate
  loads : c.loads.length = 8760

/-- A manager with every slot filled, by components. -/
structure Parts where
  f : Fluid
  gr : Thermal
  so : Soil
  pg : PipeGeom
  rough : Rat
  prc : Rat
  pt : PipeType
  b : Borehole
  p : SimParams
  loads : List Json
  gt : Option GeomType
  g : Geom
  d : Design

def Parts.mgr (x : Parts) : Mgr :=
  { fluid := some x.f, grout := some x.gr, soil := some x.so, pipe := some ⟨x.pg, x.rough, x.prc⟩, pipeType := some x.pt,
    borehole := some x.b, sim := some x.p, loads := some (.arr x.loads), geomType := x.gt, geom := some x.g, design := some x.d }

/-- Pipe object and recorded pipe type agree (every pipe setter sets both). -/
def PipeOk : PipeGeom → PipeType → Prop
  | .utube .., pt => pt ≠ .coaxial
  | .coax .., pt => pt = .coaxial

/-- On the diameters `A.dbl r` the file holds, not the radii kept: hence `A.Exact` for a valid file. -/
def PipeValid (A : Arith) (pg : PipeGeom) (rough prc : Rat) : Prop :=
  0 ≤ rough ∧ 0 ≤ prc ∧
  match pg with
  | .utube rIn rOut s k => 0 ≤ A.dbl rIn ∧ 0 ≤ A.dbl rOut ∧ 0 ≤ s ∧ 0 ≤ k
  | .coax a b c d ki ko => 0 ≤ A.dbl a ∧ 0 ≤ A.dbl b ∧ 0 ≤ A.dbl c ∧ 0 ≤ A.dbl d ∧ 0 ≤ ki ∧ 0 ≤ ko

def GeomValid : Geom → Prop
  | .nearSquare b l => 0 ≤ b ∧ 0 ≤ l
  | .rectangle w l bmin bx => 0 ≤ w ∧ 0 ≤ l ∧ 0 ≤ bmin ∧ 0 ≤ bx
  | .biRectangle w l bmin bx by' => 0 ≤ w ∧ 0 ≤ l ∧ 0 ≤ bmin ∧ 0 ≤ bx ∧ 0 ≤ by'
  | .biZoned w l bmin bx by' => 0 ≤ w ∧ 0 ≤ l ∧ 0 ≤ bmin ∧ 0 ≤ bx ∧ 0 ≤ by'
  | .constrained bmin bx by' pb ng => 0 ≤ bmin ∧ 0 ≤ bx ∧ 0 ≤ by' ∧
      (∃ ps, pb = jPolys ps ∧ PolysOk ps) ∧ (∃ ns, ng = jPolys ns ∧ PolysOk ns)
  | .rowWise ratio minSp maxSp step _ _ _ pb ng minDeg maxDeg =>
      (∀ r, ratio = some r → 0 ≤ r) ∧ 0 ≤ minSp ∧ 0 ≤ maxSp ∧ 0 ≤ step ∧ -90 ≤ minDeg ∧ minDeg ≤ 90 ∧ -90 ≤ maxDeg ∧ maxDeg ≤ 90 ∧
      (∃ p, pb = jPoly p ∧ PolyOk p) ∧ (∃ ns, ng = jPolys ns ∧ PolysOk ns)

/-- What the worker's second call of the constrained setter needs. -/
def GeomShape : Geom → Prop
  | .constrained _ _ _ pb ng => (∃ ps, pb = jPolys ps ∧ PolysShape ps) ∧ (∃ ns, ng = jPolys ns ∧ PolysShape ns)
  | _ => True

structure StateValid (A : Arith) (x : Parts) : Prop where
  pipeOk : PipeOk x.pg x.pt
  percent0 : 0 ≤ x.f.percent
  percent60 : x.f.percent ≤ 60
  groutK : 0 ≤ x.gr.k
  groutRc : 0 ≤ x.gr.rhoCp
  soilK : 0 ≤ x.so.k
  soilRc : 0 ≤ x.so.rhoCp
  pipe : PipeValid A x.pg x.rough x.prc
  depth : 0 ≤ x.b.D
  months : 1 ≤ x.p.endMonth
  maxH : 0 ≤ x.p.maxHeight
  minH : 0 ≤ x.p.minHeight
  geom : GeomValid x.g
  flow : 0 ≤ x.d.vFlow
  loads : ∃ l : List Rat, x.loads = l.map Json.num ∧ l.length = 8760

def specOf (fn : String) : ValidatorSpec := (Gen.validators.find? (fun v => v.fn == fn)).getD default

/-! ### Key tables: what the loader reads against what the writer writes -/

def argKeysFrom (v : String) (args : List RArg) : List String :=
  args.filterMap fun a => if a.2.1 = "key" ∧ a.2.2.1 = v then some a.2.2.2 else none

/-- Keys read as `v["k"]` (a missing one raises KeyError) by the setter calls in simple statements. -/
def keysReadS (v : String) : List SOp → List String
  | [] => []
  | .call _ args :: rest => argKeysFrom v args ++ keysReadS v rest
  | _ :: rest => keysReadS v rest

def keysReadTop (v : String) : List ROp → List String
  | [] => []
  | .simple (.call _ args) :: rest => argKeysFrom v args ++ keysReadTop v rest
  | .callGuard (.call _ args) _ :: rest => argKeysFrom v args ++ keysReadTop v rest
  | _ :: rest => keysReadTop v rest

def chainOf (subject : String) : List ROp → List (String × List SOp)
  | [] => []
  | .chain s branches _ _ :: rest => if s = subject then branches else chainOf subject rest
  | _ :: rest => chainOf subject rest

def rowsOfClass (cls : String) : List String := ((Gen.toInputOf.lookup cls).getD []).filterMap fun r => if r.2.2 = "" then some r.1 else none

/-- Keys `write_input_file` sets unconditionally in `var`, outside chains. -/
def extraKeys (var : String) : List WOp → List String
  | [] => []
  | .set v k _ c :: rest => (if v = var ∧ c = "" then [k] else []) ++ extraKeys var rest
  | .initLit v rows :: rest => (if v = var then rows.map (·.1) else []) ++ extraKeys var rest
  | _ :: rest => extraKeys var rest

def chainKeys (pt : PipeType) : List WOp → List String
  | [] => []
  | .chain branches _ :: rest =>
      (match pickBranch (evalMgrCond { pipeType := some pt }) branches with
       | .ok (some rows) => rows.map (fun r => r.2.1)
       | _ => []) ++ chainKeys pt rest
  | _ :: rest => chainKeys pt rest

def GeomType.className : GeomType → String
  | .nearSquare => "GeometricConstraintsNearSquare" | .rectangle => "GeometricConstraintsRectangle"
  | .biRectangle => "GeometricConstraintsBiRectangle" | .biZonedRectangle => "GeometricConstraintsBiZoned"
  | .biRectangleConstrained => "GeometricConstraintsBiRectangleConstrained" | .rowWise => "GeometricConstraintsRowWise"

def subsetB (a b : List String) : Bool := a.all (fun k => b.contains k)

/-- Geometry branch of the loader ⊆ keys its class writes (plus the two heights). -/
def geomKeysOk : Bool :=
  GeomType.all.all fun t =>
    subsetB (keysReadS "constraint_props" (((chainOf "ghe.geom_type" Gen.worker).lookup ("DesignGeomType." ++ t.name)).getD [])
              ++ keysReadTop "constraint_props" Gen.worker)
            (rowsOfClass t.className ++ extraKeys "d_geo" Gen.writeInputFile)

def pipeKeysOk : Bool :=
  PipeType.all.all fun t =>
    subsetB (keysReadS "pipe_props" (((chainOf "ghe.pipe_type" Gen.worker).lookup ("BHPipeType." ++ t.name)).getD [])
              ++ keysReadTop "pipe_props" Gen.worker)
            (extraKeys "d_pipe" Gen.writeInputFile ++ chainKeys t Gen.writeInputFile)

def fixedKeysOk : Bool :=
  subsetB (keysReadTop "borehole_props" Gen.worker) (rowsOfClass "GHEBorehole") &&
  subsetB (keysReadTop "sim_props" Gen.worker) (rowsOfClass "SimulationParameters") &&
  subsetB (keysReadTop "design_props" Gen.worker) (rowsOfClass "DesignBase" ++ extraKeys "d_des" Gen.writeInputFile)

/-- `set_x(**section)`: every written key is a parameter, every required parameter is written. -/
def splatOk (setter cls : String) : Bool :=
  let params := ((Gen.setterSigs.lookup setter).getD []).map (·.1)
  let opt := (Gen.setterOptional.lookup setter).getD []
  subsetB (rowsOfClass cls) params && subsetB (params.filter (fun q => !opt.contains q)) (rowsOfClass cls)

end GHEVerif.Config

namespace GHEVerif.Cli
open GHEVerif GHEVerif.Gen GHEVerif.Config

/-- The argument `validate_input_file` hands to a validator. -/
def sectionArg (inst : Json) (v : ValidatorSpec) : Py Json := if v.sect = "" then .ok inst else pyGetItem inst v.sect

end GHEVerif.Cli

namespace GHEVerif.Config
open GHEVerif GHEVerif.Gen

-- The six simp sets are closed: with these core facts `simp only [set, …]` runs an interpreter.  Under the default simp set every
-- comparison of two string keys first tries `BEq.rfl`, whose unification looks inside both literals.
-- `List.find?` is unfolded, not rewritten by `List.find?_cons_of_pos`: its side condition is closed by `String.reduceBEq` by evaluation,
-- and checking it sends simp into a `whnf` of the string comparison.
attribute [obj_eval_proc, write_eval_proc, schema_eval_proc, setter_eval_proc, worker_eval_proc, cli_eval_proc]
  String.reduceEq String.reduceBEq String.reduceAppend reduceCtorEq Int.reduceEq
attribute [obj_eval_proc ↓, write_eval_proc ↓, schema_eval_proc ↓, setter_eval_proc ↓, worker_eval_proc ↓, cli_eval_proc ↓] reduceIte
attribute [obj_eval, write_eval, schema_eval, setter_eval, worker_eval, cli_eval]
  Bool.false_eq_true not_false_eq_true not_true_eq_false ne_eq decide_true decide_false Bool.not_true Bool.not_false
  Bool.and_true Bool.true_and Bool.and_false Bool.or_false Bool.or_true and_true true_and and_false false_and or_false false_or
  Option.isSome_some Option.isSome_none Option.isNone_some Option.isNone_none Option.getD_some Option.getD_none Option.some.injEq
  Except.ok.injEq List.nil_append List.cons_append List.append_nil

theorem lookup_cons_ite {β} (k k' : String) (v' : β) (kv : List (String × β)) :
    ((k', v') :: kv).lookup k = if k' = k then some v' else kv.lookup k := by
  by_cases h : k' = k
  · simp [List.lookup, h]
  · have : (k == k') = false := by simpa using Ne.symm h
    simp [List.lookup, this, h]

theorem lookup_dictSet (kv : Dict) (k : String) (v : Json) : (dictSet kv k v).lookup k = some v := by
  fun_induction dictSet kv k v with
  | case1 => simp
  | case2 => simp
  | case3 k' v' rest k v hk ih => simp [lookup_cons_ite, hk, ih]

theorem dictSet_dictSet (kv : Dict) (k : String) (a b : Json) : dictSet (dictSet kv k a) k b = dictSet kv k b := by
  fun_induction dictSet kv k a with
  | case1 => simp [dictSet]
  | case2 => simp [dictSet]
  | case3 k' v' rest k a hk ih => simp [dictSet, hk, ih]

theorem dictSet_self (kv : Dict) (k : String) (v : Json) (h : kv.lookup k = some v) : dictSet kv k v = kv := by
  fun_induction dictSet kv k v with
  | case1 => simp at h
  | case2 => simp_all
  | case3 k' v' rest k v hk ih => simp_all [lookup_cons_ite]

theorem dictSet_fresh (d : Dict) (k : String) (v : Json) (h : d.lookup k = none) : dictSet d k v = d ++ [(k, v)] := by
  fun_induction dictSet d k v with
  | case1 => rfl
  | case2 => simp at h
  | case3 k' v' rest k v hk ih =>
    rw [lookup_cons_ite, if_neg hk] at h
    simp [ih h]

/-! ### The sections a complete manager is written as -/

def fluidJ (f : Fluid) : Dict :=
  [("fluid_name", .str f.ftype.name), ("concentration_percent", .num f.percent), ("temperature", .num f.temperature)]
def groutJ (t : Thermal) : Dict := [("conductivity", .num t.k), ("rho_cp", .num t.rhoCp)]
def soilJ (s : Soil) : Dict := [("conductivity", .num s.k), ("rho_cp", .num s.rhoCp), ("undisturbed_temp", .num s.ugt)]
def boreJ (A : Arith) (b : Borehole) : Dict := [("buried_depth", .num b.D), ("diameter", .num (A.dbl b.rb))]
def simJ (p : SimParams) : Dict := [("num_months", .num p.endMonth)]

/-- The rows `GeometricConstraints*.to_input()` returns. -/
def geomRows : Geom → Dict
  | .nearSquare b l => [("length", .num l), ("b", .num b), ("method", .str "NEARSQUARE")]
  | .rectangle w l bmin bx => [("length", .num l), ("width", .num w), ("b_min", .num bmin), ("b_max", .num bx), ("method", .str "RECTANGLE")]
  | .biRectangle w l bmin bx by' => [("length", .num l), ("width", .num w), ("b_min", .num bmin), ("b_max_x", .num bx),
      ("b_max_y", .num by'), ("method", .str "BIRECTANGLE")]
  | .biZoned w l bmin bx by' => [("length", .num l), ("width", .num w), ("b_min", .num bmin), ("b_max_x", .num bx),
      ("b_max_y", .num by'), ("method", .str "BIZONEDRECTANGLE")]
  | .constrained bmin bx by' pb ng => [("b_min", .num bmin), ("b_max_x", .num bx), ("b_max_y", .num by'),
      ("property_boundary", pb), ("no_go_boundaries", ng), ("method", .str "BIRECTANGLECONSTRAINED")]
  | .rowWise ratio minSp maxSp step _ _ rotStep pb ng minDeg maxDeg =>
      [("min_spacing", .num minSp), ("max_spacing", .num maxSp), ("spacing_step", .num step), ("min_rotation", .num minDeg),
       ("max_rotation", .num maxDeg), ("rotate_step", .num rotStep), ("property_boundary", pb), ("no_go_boundaries", ng),
       ("method", .str "ROWWISE")] ++ (match ratio with | some r => [("perimeter_spacing_ratio", .num r)] | none => [])

def pipeRows (A : Arith) (pg : PipeGeom) (rough prc : Rat) : Dict :=
  match pg with
  | .utube rIn rOut s k =>
      [("rho_cp", .num prc), ("roughness", .num rough), ("inner_diameter", .num (A.dbl rIn)), ("outer_diameter", .num (A.dbl rOut)),
       ("shank_spacing", .num s), ("conductivity", .num k)]
  | .coax a b c d ki ko =>
      [("rho_cp", .num prc), ("roughness", .num rough), ("inner_pipe_d_in", .num (A.dbl a)), ("inner_pipe_d_out", .num (A.dbl b)),
       ("outer_pipe_d_in", .num (A.dbl c)), ("outer_pipe_d_out", .num (A.dbl d)), ("conductivity_inner", .num ki),
       ("conductivity_outer", .num ko)]

def pipeJ (A : Arith) (pg : PipeGeom) (rough prc : Rat) (pt : PipeType) : Dict :=
  pipeRows A pg rough prc ++ [("arrangement", .str pt.name)]

def desJ (d : Design) (p : SimParams) : Dict :=
  [("flow_rate", .num d.vFlow), ("flow_type", .str d.flowType.name), ("max_eft", .num p.maxEft), ("min_eft", .num p.minEft)]
  ++ (match p.maxBoreholes with | some q => [("max_boreholes", .num q)] | none => [])
  ++ (if p.cont then [("continue_if_design_unmet", .bool true)] else [])

def geoJ (g : Geom) (p : SimParams) : Dict :=
  geomRows g ++ [("max_height", .num p.maxHeight), ("min_height", .num p.minHeight)]

def fileOf (A : Arith) (x : Parts) (dgeo ddes dpipe : Dict) : Json :=
  .obj [("version", .str Gen.VERSION),
        ("fluid", .obj (fluidJ x.f)), ("grout", .obj (groutJ x.gr)), ("soil", .obj (soilJ x.so)),
        ("pipe", .obj dpipe),
        ("borehole", .obj (boreJ A x.b)), ("simulation", .obj (simJ x.p)),
        ("geometric_constraints", .obj dgeo),
        ("design", .obj ddes),
        ("loads", .obj [("ground_loads", .arr x.loads)])]

/-- What `write_input_file` writes for a complete manager. -/
def inputOf (A : Arith) (x : Parts) : Json :=
  fileOf A x (geoJ x.g x.p) (desJ x.d x.p) (pipeJ A x.pg x.rough x.prc x.pt)

/-! What a written section answers to a key (validators and loader read it so). -/

theorem desJ_flow_rate (d : Design) (p : SimParams) : (desJ d p).lookup "flow_rate" = some (.num d.vFlow) := by
  simp [desJ]
theorem desJ_flow_type (d : Design) (p : SimParams) : (desJ d p).lookup "flow_type" = some (.str d.flowType.name) := by
  simp [desJ, List.lookup]
theorem desJ_max_eft (d : Design) (p : SimParams) : (desJ d p).lookup "max_eft" = some (.num p.maxEft) := by
  simp [desJ, List.lookup]
theorem desJ_min_eft (d : Design) (p : SimParams) : (desJ d p).lookup "min_eft" = some (.num p.minEft) := by
  simp [desJ, List.lookup]
theorem desJ_max_boreholes (d : Design) (p : SimParams) : (desJ d p).lookup "max_boreholes" = p.maxBoreholes.map .num := by
  obtain ⟨e1, e2, e3, e4, e5, mb, ct⟩ := p
  cases mb <;> cases ct <;> simp [desJ, List.lookup]
theorem desJ_continue (d : Design) (p : SimParams) :
    (desJ d p).lookup "continue_if_design_unmet" = if p.cont then some (.bool true) else none := by
  obtain ⟨e1, e2, e3, e4, e5, mb, ct⟩ := p
  cases mb <;> cases ct <;> simp [desJ, List.lookup]

theorem geoJ_method (g : Geom) (p : SimParams) : (geoJ g p).lookup "method" = some (.str g.type.name) := by
  cases g with
  | rowWise ratio _ _ _ _ _ _ _ _ _ _ => cases ratio <;> simp [geoJ, geomRows, List.lookup, Geom.type, GeomType.name]
  | _ => simp [geoJ, geomRows, List.lookup, Geom.type, GeomType.name]
theorem geomRows_no_heights (g : Geom) : (geomRows g).lookup "max_height" = none ∧ (geomRows g).lookup "min_height" = none := by
  cases g with
  | rowWise ratio _ _ _ _ _ _ _ _ _ _ => cases ratio <;> simp [geomRows, List.lookup]
  | _ => simp [geomRows, List.lookup]

theorem geoJ_heights (g : Geom) (p : SimParams) :
    (geoJ g p).lookup "max_height" = some (.num p.maxHeight) ∧ (geoJ g p).lookup "min_height" = some (.num p.minHeight) := by
  simp [geoJ, List.lookup_append, geomRows_no_heights, List.lookup]

theorem pipeRows_no_arrangement (A : Arith) (pg : PipeGeom) (rough prc : Rat) : (pipeRows A pg rough prc).lookup "arrangement" = none := by
  cases pg <;> simp [pipeRows, List.lookup]

theorem pipeJ_arr (A : Arith) (pg : PipeGeom) (rough prc : Rat) (pt : PipeType) :
    (pipeJ A pg rough prc pt).lookup "arrangement" = some (.str pt.name) := by
  simp [pipeJ, List.lookup_append, pipeRows_no_arrangement, List.lookup]

/-! ### The setters on explicit keyword lists -/

theorem upper_fluid_name (ft : FluidType) : upper ft.name = ft.name := by cases ft <;> decide +kernel
theorem upper_pipe_name (t : PipeType) : upper t.name = t.name := by cases t <;> decide +kernel
theorem upper_geom_name (t : GeomType) : upper t.name = t.name := by cases t <;> decide +kernel
theorem upper_flow_name (t : FlowCfg) : upper t.name = t.name := by cases t <;> decide +kernel

theorem flow_ofName (t : FlowCfg) : FlowCfg.ofName (upper t.name) = some t := by
  rw [upper_flow_name]; cases t <;> decide +kernel
theorem fluid_ofName (t : FluidType) : FluidType.ofName (upper t.name) = some t := by
  rw [upper_fluid_name]; cases t <;> decide +kernel
theorem pipe_ofName (t : PipeType) : PipeType.ofName (upper t.name) = some t := by
  rw [upper_pipe_name]; cases t <;> decide +kernel
theorem geom_ofName (t : GeomType) : GeomType.ofName (upper t.name) = some t := by
  rw [upper_geom_name]; cases t <;> decide +kernel

theorem optNum_optJson (o : Option Rat) : optNum (optJson o) = .ok o := by cases o <;> rfl

/- The scans of the generated tables (their values are lists) and the interpreters' steps are rewritten by
   equations (`f.eq_n` in the sets), not unfolded: what simp unfolds, the kernel runs again by itself, one string
   comparison after the other. -/
theorem table_lookup_cons {β} (k k' : String) (v' : List β) (kv : List (String × List β)) :
    ((k', v') :: kv).lookup k = if k' = k then some v' else kv.lookup k := lookup_cons_ite ..

attribute [setter_eval ↓] table_lookup_cons
attribute [setter_eval] applySetter.eq_1 sigOf.eq_1 Gen.setterSigs.eq_1 resolveArgs posIndex nthName missingRequired optionalOf
  Gen.setterOptional argOf num optNum_optJson asBool uTube parsePyConst List.lookup List.any
  List.elem bind Except.bind pure Except.pure pyStrUpper

theorem set_fluid_api (A : Arith) {m : Mgr} {s : String} {ft : FluidType} {pc t : Rat} (h : FluidType.ofName (upper s) = some ft) :
    applySetter A m "set_fluid" [("fluid_name", .str s), ("concentration_percent", .num pc), ("temperature", .num t)]
      = .ok ({ m with fluid := some ⟨ft, pc, t⟩ }, 0) := by
  simp only [setter_eval, h]

theorem set_fluid_cli (A : Arith) {m : Mgr} {s : String} {ft : FluidType} {pc t : Rat} (h : FluidType.ofName (upper s) = some ft) :
    applySetter A m "set_fluid" [("fluid_name", .str s), ("concentration_percent", .num pc), ("temperature", .num t), ("throw", .bool false)]
      = .ok ({ m with fluid := some ⟨ft, pc, t⟩ }, 0) := by
  simp only [setter_eval, h]

theorem set_grout_eq (A : Arith) (m : Mgr) (k rc : Rat) :
    applySetter A m "set_grout" [("conductivity", .num k), ("rho_cp", .num rc)] = .ok ({ m with grout := some ⟨k, rc⟩ }, 0) := by
  simp only [setter_eval]

theorem set_soil_eq (A : Arith) (m : Mgr) (k rc t : Rat) :
    applySetter A m "set_soil" [("conductivity", .num k), ("rho_cp", .num rc), ("undisturbed_temp", .num t)]
      = .ok ({ m with soil := some ⟨k, rc, t⟩ }, 0) := by
  simp only [setter_eval]

theorem set_pipe_type_str (A : Arith) {m : Mgr} {s : String} {t : PipeType} (h : PipeType.ofName (upper s) = some t) :
    applySetter A m "set_pipe_type" [("#0", .str s), ("throw", .bool false)] = .ok ({ m with pipeType := some t }, 0) := by
  simp only [setter_eval, h]

theorem set_pipe_type_cli (A : Arith) (m : Mgr) (t : PipeType) :
    applySetter A m "set_pipe_type" [("#0", .str t.name), ("throw", .bool false)] = .ok ({ m with pipeType := some t }, 0) :=
  set_pipe_type_str A (pipe_ofName t)

theorem set_single_eq (A : Arith) (m : Mgr) (a b s r k c : Rat) :
    applySetter A m "set_single_u_tube_pipe" [("inner_diameter", .num a), ("outer_diameter", .num b), ("shank_spacing", .num s),
        ("roughness", .num r), ("conductivity", .num k), ("rho_cp", .num c)]
      = .ok ({ m with pipeType := some .singleUTube, pipe := some ⟨.utube (A.half a) (A.half b) s k, r, c⟩ }, 0) := by
  simp only [setter_eval]

theorem set_dpar_eq (A : Arith) (m : Mgr) (a b s r k c : Rat) :
    applySetter A m "set_double_u_tube_pipe_parallel" [("inner_diameter", .num a), ("outer_diameter", .num b), ("shank_spacing", .num s),
        ("roughness", .num r), ("conductivity", .num k), ("rho_cp", .num c)]
      = .ok ({ m with pipeType := some .doubleUTubeParallel, pipe := some ⟨.utube (A.half a) (A.half b) s k, r, c⟩ }, 0) := by
  simp only [setter_eval]

theorem set_dser_eq (A : Arith) (m : Mgr) (a b s r k c : Rat) :
    applySetter A m "set_double_u_tube_pipe_series" [("inner_diameter", .num a), ("outer_diameter", .num b), ("shank_spacing", .num s),
        ("roughness", .num r), ("conductivity", .num k), ("rho_cp", .num c)]
      = .ok ({ m with pipeType := some .doubleUTubeSeries, pipe := some ⟨.utube (A.half a) (A.half b) s k, r, c⟩ }, 0) := by
  simp only [setter_eval]

theorem set_coax_eq (A : Arith) (m : Mgr) (a b c d r ki ko rc : Rat) :
    applySetter A m "set_coaxial_pipe" [("inner_pipe_d_in", .num a), ("inner_pipe_d_out", .num b), ("outer_pipe_d_in", .num c),
        ("outer_pipe_d_out", .num d), ("roughness", .num r), ("conductivity_inner", .num ki), ("conductivity_outer", .num ko),
        ("rho_cp", .num rc)]
      = .ok ({ m with pipeType := some .coaxial,
                      pipe := some ⟨.coax (A.half a) (A.half b) (A.half c) (A.half d) ki ko, r, rc⟩ }, 0) := by
  simp only [setter_eval]

theorem set_borehole_eq (A : Arith) (m : Mgr) (h d dia : Rat) :
    applySetter A m "set_borehole" [("height", .num h), ("buried_depth", .num d), ("diameter", .num dia)]
      = .ok ({ m with borehole := some ⟨h, d, A.half dia⟩ }, 0) := by
  simp only [setter_eval]

theorem set_loads_cli (A : Arith) (m : Mgr) (l : Json) :
    applySetter A m "set_ground_loads_from_hourly_list" [("#0", l)] = .ok ({ m with loads := some l }, 0) := by
  simp only [setter_eval]

theorem set_loads_api (A : Arith) (m : Mgr) (l : Json) :
    applySetter A m "set_ground_loads_from_hourly_list" [("hourly_ground_loads", l)] = .ok ({ m with loads := some l }, 0) := by
  simp only [setter_eval]

theorem set_sim_eq (A : Arith) (m : Mgr) (nm mx mn hx hn : Rat) (mb : Option Rat) (ct : Bool) :
    applySetter A m "set_simulation_parameters" [("num_months", .num nm), ("max_eft", .num mx), ("min_eft", .num mn),
        ("max_height", .num hx), ("min_height", .num hn), ("max_boreholes", optJson mb), ("continue_if_design_unmet", .bool ct)]
      = .ok ({ m with sim := some ⟨nm, mx, mn, hx, hn, mb, ct⟩ }, 0) := by
  simp only [setter_eval]

theorem set_geom_type_cli (A : Arith) (m : Mgr) (t : GeomType) :
    applySetter A m "set_design_geometry_type" [("#0", .str t.name), ("throw", .bool false)] = .ok ({ m with geomType := some t }, 0) := by
  simp only [setter_eval, geom_ofName]

theorem set_near_square_eq (A : Arith) (m : Mgr) (b l : Rat) :
    applySetter A m "set_geometry_constraints_near_square" [("b", .num b), ("length", .num l)]
      = .ok ({ m with geom := some (.nearSquare b l) }, 0) := by
  simp only [setter_eval]

theorem set_rectangle_eq (A : Arith) (m : Mgr) (l w bmin bmax : Rat) :
    applySetter A m "set_geometry_constraints_rectangle" [("length", .num l), ("width", .num w), ("b_min", .num bmin), ("b_max", .num bmax)]
      = .ok ({ m with geomType := some .rectangle, geom := some (.rectangle w l bmin bmax) }, 0) := by
  simp only [setter_eval]

theorem set_bi_rectangle_eq (A : Arith) (m : Mgr) (l w bmin bx by' : Rat) :
    applySetter A m "set_geometry_constraints_bi_rectangle"
        [("length", .num l), ("width", .num w), ("b_min", .num bmin), ("b_max_x", .num bx), ("b_max_y", .num by')]
      = .ok ({ m with geomType := some .biRectangle, geom := some (.biRectangle w l bmin bx by') }, 0) := by
  simp only [setter_eval]

theorem set_bi_zoned_eq (A : Arith) (m : Mgr) (l w bmin bx by' : Rat) :
    applySetter A m "set_geometry_constraints_bi_zoned_rectangle"
        [("length", .num l), ("width", .num w), ("b_min", .num bmin), ("b_max_x", .num bx), ("b_max_y", .num by')]
      = .ok ({ m with geomType := some .biZonedRectangle, geom := some (.biZoned w l bmin bx by') }, 0) := by
  simp only [setter_eval]

theorem set_constrained_eq (A : Arith) {m : Mgr} {bmin bx by' : Rat} {pb ng pb' ng' : Json}
    (hp : wrapIfFlat pb = .ok pb') (hn : wrapIfFlat ng = .ok ng') :
    applySetter A m "set_geometry_constraints_bi_rectangle_constrained"
        [("b_min", .num bmin), ("b_max_x", .num bx), ("b_max_y", .num by'), ("property_boundary", pb), ("no_go_boundaries", ng)]
      = .ok ({ m with geomType := some .biRectangleConstrained, geom := some (.constrained bmin bx by' pb' ng') }, 0) := by
  simp only [setter_eval, hp, hn]

theorem set_rowwise_eq (A : Arith) (m : Mgr) (ratio : Option Rat) (maxSp minSp step maxRot minRot rotStep : Rat) (pb ng : Json) :
    applySetter A m "set_geometry_constraints_rowwise"
        [("perimeter_spacing_ratio", optJson ratio), ("max_spacing", .num maxSp), ("min_spacing", .num minSp),
         ("spacing_step", .num step), ("max_rotation", .num maxRot), ("min_rotation", .num minRot),
         ("rotate_step", .num rotStep), ("property_boundary", pb), ("no_go_boundaries", ng)]
      = .ok ({ m with geomType := some .rowWise,
                      geom := some (.rowWise ratio minSp maxSp step (A.toRad minRot) (A.toRad maxRot) rotStep pb ng minRot maxRot) }, 0) := by
  simp only [setter_eval]

theorem set_design_eq (A : Arith) (m : Mgr) (fr : Rat) {s : String} {fl : FlowCfg} (h : FlowCfg.ofName (upper s) = some fl) :
    applySetter A m "set_design" [("flow_rate", .num fr), ("flow_type_str", .str s)]
      = match m.geom with
        | none => .error .other
        | some g => .ok ({ m with design := some ⟨fr, fl, g.type⟩ }, 0) := by
  cases hg : m.geom <;> simp only [setter_eval, h, hg]

theorem set_design_api (A : Arith) (m : Mgr) (g : Geom) (hg : m.geom = some g) (fr : Rat) (s : String) (fl : FlowCfg)
    (h : FlowCfg.ofName (upper s) = some fl) :
    applySetter A m "set_design" [("flow_rate", .num fr), ("flow_type_str", .str s)]
      = .ok ({ m with design := some ⟨fr, fl, g.type⟩ }, 0) := by
  rw [set_design_eq A m fr h, hg]

theorem set_design_cli (A : Arith) {m : Mgr} {g : Geom} (hg : m.geom = some g) (fr : Rat) {s : String} {fl : FlowCfg}
    (h : FlowCfg.ofName (upper s) = some fl) :
    applySetter A m "set_design" [("flow_rate", .num fr), ("flow_type_str", .str s), ("throw", .bool false)]
      = .ok ({ m with design := some ⟨fr, fl, g.type⟩ }, 0) := by
  simp only [setter_eval, h, hg]

/-! ### The API calls of a configuration -/

def pipeGeomOf (A : Arith) : PipeArgs → PipeGeom
  | .single a b s _ k _ => .utube (A.half a) (A.half b) s k
  | .doublePar a b s _ k _ => .utube (A.half a) (A.half b) s k
  | .doubleSer a b s _ k _ => .utube (A.half a) (A.half b) s k
  | .coaxial a b c d _ ki ko _ => .coax (A.half a) (A.half b) (A.half c) (A.half d) ki ko
def PipeArgs.rough : PipeArgs → Rat
  | .single _ _ _ r _ _ => r | .doublePar _ _ _ r _ _ => r | .doubleSer _ _ _ r _ _ => r | .coaxial _ _ _ _ r _ _ _ => r
def PipeArgs.rhoCp : PipeArgs → Rat
  | .single _ _ _ _ _ c => c | .doublePar _ _ _ _ _ c => c | .doubleSer _ _ _ _ _ c => c | .coaxial _ _ _ _ _ _ _ c => c
def PipeArgs.ptype : PipeArgs → PipeType
  | .single .. => .singleUTube | .doublePar .. => .doubleUTubeParallel | .doubleSer .. => .doubleUTubeSeries | .coaxial .. => .coaxial

def geomOf (A : Arith) : GeomArgs → Geom
  | .nearSquare b l => .nearSquare b l
  | .rectangle l w bmin bmax => .rectangle w l bmin bmax
  | .biRectangle l w bmin bx by' => .biRectangle w l bmin bx by'
  | .biZoned l w bmin bx by' => .biZoned w l bmin bx by'
  | .constrained bmin bx by' pb ng => .constrained bmin bx by' (jPolys pb) (jPolys ng)
  | .rowWise ratio maxSp minSp step maxRot minRot rotStep pb ng =>
      .rowWise ratio minSp maxSp step (A.toRad minRot) (A.toRad maxRot) rotStep (jPoly pb) (jPolys ng) minRot maxRot

/-- Every geometry setter records `geom_type` except the near-square one. -/
def geomTypeOf : GeomArgs → Option GeomType
  | .nearSquare .. => none
  | .rectangle .. => some .rectangle
  | .biRectangle .. => some .biRectangle
  | .biZoned .. => some .biZonedRectangle
  | .constrained .. => some .biRectangleConstrained
  | .rowWise .. => some .rowWise

def partsOf (A : Arith) (c : Config) (ft : FluidType) (fl : FlowCfg) : Parts :=
  Parts.mk ⟨ft, c.percent, c.temperature⟩ ⟨c.groutK, c.groutRhoCp⟩ ⟨c.soilK, c.soilRhoCp, c.soilT⟩
    (pipeGeomOf A c.pipe) c.pipe.rough c.pipe.rhoCp c.pipe.ptype ⟨c.nominalHeight, c.buriedDepth, A.half c.diameter⟩
    ⟨c.numMonths, c.maxEft, c.minEft, c.maxHeight, c.minHeight, c.maxBoreholes, c.cont⟩ (c.loads.map Json.num)
    (geomTypeOf c.geom) (geomOf A c.geom) ⟨c.flowRate, fl, (geomOf A c.geom).type⟩

theorem wrapIfFlat_polys (ps : List (List (List Rat))) (h : PolysShape ps) : wrapIfFlat (jPolys ps) = .ok (jPolys ps) := by
  cases ps with
  | nil => simp [jPolys, wrapIfFlat]
  | cons p rest =>
    obtain ⟨hp, hpt⟩ := h p List.mem_cons_self
    cases p with
    | nil => exact absurd rfl hp
    | cons pt r =>
      have := hpt pt List.mem_cons_self
      cases pt with
      | nil => exact absurd rfl this
      | cons q qs => simp [jPolys, jPoly, jNums, wrapIfFlat]

theorem pipe_call (A : Arith) (m : Mgr) (pa : PipeArgs) :
    applySetter A m pa.call.1 pa.call.2
      = .ok ({ m with pipeType := some pa.ptype, pipe := some ⟨pipeGeomOf A pa, pa.rough, pa.rhoCp⟩ }, 0) := by
  cases pa <;> simp only [PipeArgs.call, PipeArgs.ptype, pipeGeomOf, PipeArgs.rough, PipeArgs.rhoCp,
    set_single_eq, set_dpar_eq, set_dser_eq, set_coax_eq]

theorem geom_call (A : Arith) {m : Mgr} {ga : GeomArgs} (hs : GeomArgsShape ga) :
    applySetter A m ga.call.1 ga.call.2
      = .ok ({ m with geomType := (geomTypeOf ga).orElse fun _ => m.geomType, geom := some (geomOf A ga) }, 0) := by
  cases ga with
  | constrained bmin bx by' pb ng =>
    simp only [GeomArgs.call, geomOf, geomTypeOf, Option.orElse,
      set_constrained_eq A (wrapIfFlat_polys _ hs.1) (wrapIfFlat_polys _ hs.2)]
  | _ => simp only [GeomArgs.call, geomOf, geomTypeOf, Option.orElse, set_near_square_eq, set_rectangle_eq, set_bi_rectangle_eq,
      set_bi_zoned_eq, set_rowwise_eq]

theorem build_eq (A : Arith) (c : Config) (ft : FluidType) (fl : FlowCfg)
    (hf : FluidType.ofName (upper c.fluidName) = some ft) (hfl : FlowCfg.ofName (upper c.flowType) = some fl)
    (hs : GeomArgsShape c.geom) :
    build A c = .ok (partsOf A c ft fl).mgr := by
  simp only [build, Config.calls, runCalls, set_fluid_api A hf, set_grout_eq, set_soil_eq, pipe_call, set_borehole_eq,
    set_sim_eq, jNums, set_loads_api, geom_call A hs, set_design_eq A _ _ hfl]
  simp [partsOf, Parts.mgr]

theorem pipeOk_partsOf (A : Arith) (c : Config) (ft : FluidType) (fl : FlowCfg) :
    PipeOk (partsOf A c ft fl).pg (partsOf A c ft fl).pt := by
  cases hc : c.pipe <;> simp [partsOf, pipeGeomOf, PipeArgs.ptype, PipeOk, hc]

/-! ### `write_input_file`, each stage once: for every continuation `rest` and every dict the stage does not look into -/

attribute [obj_eval] objToInput.eq_1 Obj.className Geom.className Design.className Gen.toInputOf List.lookup buildRows.eq_1 buildRows.eq_2
  evalSelfCond evalSelf enumNameExpr Gen.enum_DesignGeomType Gen.enum_BHPipeType Gen.enum_FluidType Gen.enum_FlowConfigType List.find?
  Option.orElse dictSet optJson

theorem objToInput_fluid (A : Arith) (f : Fluid) : objToInput A (.fluid f) = .ok (fluidJ f) := by simp only [obj_eval, fluidJ]
theorem objToInput_grout (A : Arith) (t : Thermal) : objToInput A (.grout t) = .ok (groutJ t) := by simp only [obj_eval, groutJ]
theorem objToInput_soil (A : Arith) (s : Soil) : objToInput A (.soil s) = .ok (soilJ s) := by simp only [obj_eval, soilJ]
theorem objToInput_borehole (A : Arith) (b : Borehole) : objToInput A (.borehole b) = .ok (boreJ A b) := by simp only [obj_eval, boreJ]
theorem objToInput_sim (A : Arith) (p : SimParams) : objToInput A (.sim p) = .ok (simJ p) := by simp only [obj_eval, simJ]

theorem objToInput_design (A : Arith) (d : Design) :
    objToInput A (.design d) = .ok [("flow_rate", .num d.vFlow), ("flow_type", .str d.flowType.name)] := by
  obtain ⟨vf, fl, gt⟩ := d
  cases gt <;> simp only [obj_eval]

theorem objToInput_geom (A : Arith) (g : Geom) : objToInput A (.geom g) = .ok (geomRows g) := by
  cases g with
  | rowWise ratio minSp maxSp step minRot maxRot rotStep pb ng minDeg maxDeg =>
    cases ratio <;> simp only [obj_eval, geomRows]
  | _ => simp only [obj_eval, geomRows]

attribute [write_eval] List.take_succ_cons List.take_zero List.drop_succ_cons List.drop_zero Gen.writeInputFile execW.eq_1 execW.eq_2 execW.eq_3 execW.eq_4 execW.eq_5 execW.eq_6 execW.eq_7 Parts.mgr slot Except.map buildRows.eq_1 buildRows.eq_2 evalMgr.eq_1 evalMgrCond.eq_1 enumNameExpr
  Gen.enum_DesignGeomType Gen.enum_BHPipeType Gen.enum_FluidType Gen.enum_FlowConfigType List.find? Option.orElse List.lookup
  dictSet envSet setRows.eq_1 setRows.eq_2 pickBranch.eq_1 pickBranch.eq_2 pyList optJson bind Except.bind pure Except.pure objToInput_fluid
  objToInput_grout objToInput_soil objToInput_borehole objToInput_sim objToInput_design objToInput_geom

/-- `d_geo` (3 statements), `d_des` (5), `d_pipe` rows (2), `arrangement` (1), the rest.  True of any list: it is each `execW_*`
    running its slice to the end that ties the indices to the table. -/
theorem write_stages : Gen.writeInputFile = Gen.writeInputFile.take 3 ++ ((Gen.writeInputFile.drop 3).take 5 ++
    ((Gen.writeInputFile.drop 8).take 2 ++ ((Gen.writeInputFile.drop 10).take 1 ++ Gen.writeInputFile.drop 11))) := by
  simp [Gen.writeInputFile]

theorem execW_geo (A : Arith) (x : Parts) (t : Bool) (rest : List WOp) (w : Written) :
    execW A x.mgr t (Gen.writeInputFile.take 3 ++ rest) [] w = execW A x.mgr t rest [("d_geo", geoJ x.g x.p)] w := by
  simp [write_eval, geoJ, dictSet_fresh, geomRows_no_heights, List.lookup_append]

theorem execW_des (A : Arith) (x : Parts) (t : Bool) (dg : Dict) (rest : List WOp) (w : Written) :
    execW A x.mgr t ((Gen.writeInputFile.drop 3).take 5 ++ rest) [("d_geo", dg)] w
      = execW A x.mgr t rest [("d_geo", dg), ("d_des", desJ x.d x.p)] w := by
  obtain ⟨f, gr, so, pg, rough, prc, pt, b, ⟨e1, e2, e3, e4, e5, mb, ct⟩, loads, gt, g, d⟩ := x
  cases mb <;> cases ct <;> simp only [write_eval, desJ]

theorem utube_iff (pt : PipeType) : pt = .singleUTube ∨ pt = .doubleUTubeParallel ∨ pt = .doubleUTubeSeries ↔ pt ≠ .coaxial := by
  cases pt <;> simp

theorem execW_pipeRows (A : Arith) (x : Parts) (t : Bool) (hp : PipeOk x.pg x.pt) (dg dd : Dict) (rest : List WOp) (w : Written) :
    execW A x.mgr t ((Gen.writeInputFile.drop 8).take 2 ++ rest) [("d_geo", dg), ("d_des", dd)] w
      = execW A x.mgr t rest [("d_geo", dg), ("d_des", dd), ("d_pipe", pipeRows A x.pg x.rough x.prc)] w := by
  obtain ⟨f, gr, so, pg, rough, prc, pt, b, p, loads, gt, g, d⟩ := x
  cases pg
  · have hp' : pt ≠ .coaxial := hp
    simp only [write_eval, pipeRows, utube_iff, hp']
  · have hp' : pt = .coaxial := hp
    subst hp'
    simp only [write_eval, pipeRows]

theorem execW_arrangement (A : Arith) (x : Parts) (t : Bool) {dg dd dp : Dict} (h : dp.lookup "arrangement" = none)
    (rest : List WOp) (w : Written) :
    execW A x.mgr t ((Gen.writeInputFile.drop 10).take 1 ++ rest) [("d_geo", dg), ("d_des", dd), ("d_pipe", dp)] w
      = execW A x.mgr t rest [("d_geo", dg), ("d_des", dd), ("d_pipe", dp ++ [("arrangement", .str x.pt.name)])] w := by
  obtain ⟨f, gr, so, pg, rough, prc, pt, b, p, loads, gt, g, d⟩ := x
  cases pt <;> simp only [write_eval, dictSet_fresh, h, PipeType.name]

theorem execW_file (A : Arith) (x : Parts) (t : Bool) (dgeo ddes dpipe : Dict) (w : Written) :
    execW A x.mgr t (Gen.writeInputFile.drop 11) [("d_geo", dgeo), ("d_des", ddes), ("d_pipe", dpipe)] w
      = .ok { file := some (fileOf A x dgeo ddes dpipe), sortKeys := true, indent := 2, ret := 0 } := by
  simp only [write_eval, fileOf]

theorem writeInputFile_eq (A : Arith) (x : Parts) (t : Bool) (hp : PipeOk x.pg x.pt) :
    writeInputFile A x.mgr t = .ok { file := some (inputOf A x), sortKeys := true, indent := 2, ret := 0 } := by
  unfold writeInputFile
  rw [write_stages, execW_geo, execW_des, execW_pipeRows A x t hp, execW_arrangement A x t (pipeRows_no_arrangement ..), execW_file]
  rfl

theorem toInput_eq (A : Arith) (x : Parts) (hp : PipeOk x.pg x.pt) : toInput A x.mgr = .ok (inputOf A x) := by
  unfold toInput
  rw [writeInputFile_eq A x true hp]

theorem normalise_mgr (x : Parts) :
    normalise x.mgr = Parts.mgr { x with b := { x.b with H := x.p.maxHeight }, gt := some x.g.type } := by
  simp [normalise, Parts.mgr]

theorem toInput_normalise (A : Arith) (x : Parts) (hp : PipeOk x.pg x.pt) : toInput A (normalise x.mgr) = toInput A x.mgr := by
  rw [normalise_mgr, toInput_eq A x hp]
  exact toInput_eq A { x with b := { x.b with H := x.p.maxHeight }, gt := some x.g.type } hp

/-! ### `validate_input_file` on a written file

Each `valid_*`: `schema_eval` leaves one `validProp schema value` per property; the `validProp_*` lemmas settle names and
boundaries; the rest are the range hypotheses. -/

attribute [schema_eval] runValidator pyGetItem pyContains pyStrUpper upper dictSet schemaByFile Gen.schemas validObj List.lookup
  List.find? List.all Gen.schemaOkReturn Gen.schemaErrReturn Gen.fluidSchema Gen.groutSchema Gen.soilSchema Gen.boreholeSchema
  Gen.simulationSchema Gen.designSchema Gen.loadsSchema Gen.pipeCoaxialSchema Gen.pipeSingleDoubleUTubeSchema
  Gen.fileStructureSchema Gen.geometricNearSquareSchema Gen.geometricRectangleSchema Gen.geometricBiRectangleSchema
  Gen.geometricBiZonedRectangleSchema Gen.geometricBiRectangleConstrainedSchema Gen.geometricRowwiseSchema

theorem all_map_valid {α} (d4 : Bool) (S : PropSchema) (f : α → Json) (l : List α)
    (h : ∀ a ∈ l, validProp d4 S (f a) = true) : (l.map f).all (validProp d4 S) = true := by
  simp only [List.all_eq_true, List.mem_map]
  rintro _ ⟨a, ha, rfl⟩
  exact h a ha

theorem validProp_arr (d4 : Bool) (mnI mxI : Option Nat) (items : PropSchema) (l : List Json)
    (h1 : ∀ n, mnI = some n → n ≤ l.length) (h2 : ∀ n, mxI = some n → l.length ≤ n)
    (h3 : l.all (validProp d4 items) = true) :
    validProp d4 (.node (some .array) none none none none mnI mxI items) (.arr l) = true := by
  cases mnI <;> cases mxI <;> simp_all [validProp, optAll, jtypeOk]

theorem validProp_num (d4 : Bool) (mn mx : Option Rat) (q : Rat) (h1 : ∀ m, mn = some m → m ≤ q) (h2 : ∀ m, mx = some m → q ≤ m) :
    validProp d4 (.node (some .number) mn mx none none none none .any) (.num q) = true := by
  cases mn <;> cases mx <;> simp_all [validProp, optAll, jtypeOk]

theorem validProp_nums (d4 : Bool) (mn : Option Rat) (l : List Rat) (h : ∀ q ∈ l, ∀ m, mn = some m → m ≤ q) :
    (l.map Json.num).all (validProp d4 (.node (some .number) mn none none none none none .any)) = true :=
  all_map_valid d4 _ _ l (fun q hq => validProp_num d4 mn none q (h q hq) (by simp))

theorem validProp_enum {d4 : Bool} {l : List String} {s : String} (h : l.contains s = true) :
    validProp d4 (.node (some .string) none none (some l) none none none .any) (.str s) = true := by
  simpa [validProp, optAll, jtypeOk] using h

theorem validProp_point {d4 : Bool} {pt : List Rat} (h : PointOk pt) :
    validProp d4 (.node (some .array) none none none none (some 2) (some 2)
      (.node (some .number) (some 0) none none none none none .any)) (jNums pt) = true := by
  apply validProp_arr
  · intro n hn; cases hn; simp [h.1]
  · intro n hn; cases hn; simp [h.1]
  · exact validProp_nums d4 (some 0) pt (fun q hq m hm => by cases hm; exact h.2 q hq)

theorem validProp_poly {d4 : Bool} {p : List (List Rat)} (h : PolyOk p) :
    validProp d4 (.node (some .array) none none none none none none
      (.node (some .array) none none none none (some 2) (some 2)
        (.node (some .number) (some 0) none none none none none .any))) (jPoly p) = true := by
  apply validProp_arr
  · intro n hn; cases hn
  · intro n hn; cases hn
  · exact all_map_valid d4 _ _ p (fun pt hpt => validProp_point (h pt hpt))

theorem validProp_polys {d4 : Bool} {ps : List (List (List Rat))} (h : PolysOk ps) :
    validProp d4 (.node (some .array) none none none none none none
      (.node (some .array) none none none none none none
        (.node (some .array) none none none none (some 2) (some 2)
          (.node (some .number) (some 0) none none none none none .any)))) (jPolys ps) = true := by
  apply validProp_arr
  · intro n hn; cases hn
  · intro n hn; cases hn
  · exact all_map_valid d4 _ _ ps (fun p hp => validProp_poly (h p hp))

/-- Upper-casing does nothing to a section whose name is upper case already. -/
theorem runValidator_upper {v : ValidatorSpec} {kv : Dict} {s : String} (hk : v.upperKey ≠ "")
    (h : kv.lookup v.upperKey = some (.str s)) (hs : upper s = s) :
    runValidator v (.obj kv) =
      match (if v.schemaFile = "" then v.schemaMap.lookup s else some v.schemaFile) with
      | none => .ok 1
      | some f => match schemaByFile f with
        | none => .error .other
        | some S => .ok (if validObj S (.obj kv) then Gen.schemaOkReturn else Gen.schemaErrReturn) := by
  unfold runValidator
  cases v.upperGuarded <;> simp [hk, pyContains, pyGetItem, h, pyStrUpper, hs, dictSet_self] <;> rfl

theorem runValidator_case (v : ValidatorSpec) (kv : Dict) (s s' : String) (hk : v.upperKey ≠ "") (h : upper s = upper s') :
    runValidator v (.obj (dictSet kv v.upperKey (.str s))) = runValidator v (.obj (dictSet kv v.upperKey (.str s'))) := by
  unfold runValidator
  simp [hk, pyContains, pyGetItem, lookup_dictSet, pyStrUpper, dictSet_dictSet, h]

theorem fluid_enum (ft : FluidType) :
    ["WATER", "ETHYLALCOHOL", "ETHYLENEGLYCOL", "METHYLALCOHOL", "PROPYLENEGLYCOL"].contains ft.name = true := by
  cases ft <;> decide

theorem flow_enum (t : FlowCfg) : ["BOREHOLE", "SYSTEM"].contains t.name = true := by cases t <;> decide

theorem utube_enum (pt : PipeType) (h : pt ≠ .coaxial) :
    ["SINGLEUTUBE", "DOUBLEUTUBESERIES", "DOUBLEUTUBEPARALLEL"].contains pt.name = true := by
  cases pt with
  | coaxial => exact absurd rfl h
  | _ => decide

theorem valid_fluid (f : Fluid) (h0 : 0 ≤ f.percent) (h1 : f.percent ≤ 60) :
    runValidator (specOf "validate_fluid") (.obj (fluidJ f)) = .ok 0 := by
  rw [runValidator_upper (by decide) (by simp [specOf, Gen.validators, fluidJ]) (upper_fluid_name f.ftype)]
  simp only [schema_eval, specOf, Gen.validators, fluidJ, validProp_enum (fluid_enum f.ftype)]
  simp [validProp, optAll, jtypeOk, h0, h1]

theorem valid_grout (t : Thermal) (h0 : 0 ≤ t.k) (h1 : 0 ≤ t.rhoCp) :
    runValidator (specOf "validate_grout") (.obj (groutJ t)) = .ok 0 := by
  simp only [schema_eval, specOf, Gen.validators, groutJ, validProp, optAll, jtypeOk, h0, h1]

theorem valid_soil (s : Soil) (h0 : 0 ≤ s.k) (h1 : 0 ≤ s.rhoCp) :
    runValidator (specOf "validate_soil") (.obj (soilJ s)) = .ok 0 := by
  simp only [schema_eval, specOf, Gen.validators, soilJ, validProp, optAll, jtypeOk, h0, h1]

theorem valid_borehole (A : Arith) (b : Borehole) (h0 : 0 ≤ b.D) :
    runValidator (specOf "validate_borehole") (.obj (boreJ A b)) = .ok 0 := by
  simp only [schema_eval, specOf, Gen.validators, boreJ, validProp, optAll, jtypeOk, h0]

theorem valid_simulation (p : SimParams) (h : 1 ≤ p.endMonth) :
    runValidator (specOf "validate_simulation") (.obj (simJ p)) = .ok 0 := by
  simp only [schema_eval, specOf, Gen.validators, simJ, validProp, optAll, jtypeOk, h]

theorem pipe_schema (pt : PipeType) : (specOf "validate_pipe").schemaMap.lookup pt.name =
    some (if pt = .coaxial then "pipe_coaxial.schema.json" else "pipe_single_double_u_tube.schema.json") := by
  cases pt <;> simp [specOf, Gen.validators, List.lookup, PipeType.name]

theorem valid_pipe (A : Arith) (pg : PipeGeom) (rough prc : Rat) (pt : PipeType) (hp : PipeOk pg pt) (hv : PipeValid A pg rough prc) :
    runValidator (specOf "validate_pipe") (.obj (pipeJ A pg rough prc pt)) = .ok 0 := by
  rw [runValidator_upper (by decide) (pipeJ_arr ..) (upper_pipe_name pt)]
  have hf : (specOf "validate_pipe").schemaFile = "" := by decide
  simp only [hf, if_true, pipe_schema]
  obtain ⟨h1, h2, h3⟩ := hv
  cases pg
  · have hp' : pt ≠ .coaxial := hp
    simp only [schema_eval, hp', pipeJ, pipeRows, validProp_enum (utube_enum pt hp')]
    simp_all [validProp, optAll, jtypeOk]
  · have hp' : pt = .coaxial := hp
    subst hp'
    simp only [schema_eval, pipeJ, pipeRows, PipeType.name]
    simp_all [validProp, optAll, jtypeOk]

theorem valid_geo (g : Geom) (p : SimParams) (hg : GeomValid g) (h1 : 0 ≤ p.maxHeight) (h2 : 0 ≤ p.minHeight) :
    runValidator (specOf "validate_geometric") (.obj (geoJ g p)) = .ok 0 := by
  rw [runValidator_upper (by decide) (geoJ_method ..) (upper_geom_name g.type)]
  cases g with
  | constrained bmin bx by' pb ng =>
    obtain ⟨a1, a2, a3, ⟨ps, rfl, hps⟩, ⟨ns, rfl, hns⟩⟩ := hg
    simp only [schema_eval, specOf, Gen.validators, geoJ, geomRows, Geom.type, GeomType.name]
    simp only [validProp_polys hps, validProp_polys hns]
    simp [validProp, optAll, jtypeOk, *]
  | rowWise ratio minSp maxSp step minRot maxRot rotStep pb ng minDeg maxDeg =>
    obtain ⟨a0, a1, a2, a3, a4, a5, a6, a7, ⟨ps, rfl, hps⟩, ⟨ns, rfl, hns⟩⟩ := hg
    cases ratio with
    | none =>
      simp only [schema_eval, specOf, Gen.validators, geoJ, geomRows, Geom.type, GeomType.name]
      simp only [validProp_poly hps, validProp_polys hns]
      simp [validProp, optAll, jtypeOk, *]
    | some r =>
      have := a0 r rfl
      simp only [schema_eval, specOf, Gen.validators, geoJ, geomRows, Geom.type, GeomType.name]
      simp only [validProp_poly hps, validProp_polys hns]
      simp [validProp, optAll, jtypeOk, *]
  | _ =>
    simp only [GeomValid] at hg
    simp only [schema_eval, specOf, Gen.validators, geoJ, geomRows, Geom.type, GeomType.name, validProp, optAll, jtypeOk, hg, h1, h2]

theorem valid_design (d : Design) (p : SimParams) (h : 0 ≤ d.vFlow) :
    runValidator (specOf "validate_design") (.obj (desJ d p)) = .ok 0 := by
  rw [runValidator_upper (by decide) (desJ_flow_type ..) (upper_flow_name d.flowType)]
  simp only [schema_eval, specOf, Gen.validators, desJ_flow_rate, desJ_flow_type, desJ_max_eft, desJ_min_eft, desJ_max_boreholes,
    desJ_continue, validProp_enum (flow_enum d.flowType)]
  cases p.maxBoreholes <;> cases p.cont <;> simp [validProp, optAll, jtypeOk, h]

theorem valid_loads (l : List Rat) (h : l.length = 8760) :
    runValidator (specOf "validate_loads") (.obj [("ground_loads", .arr (l.map Json.num))]) = .ok 0 := by
  have h1 := validProp_arr true (some 8760) (some 8760) _ (l.map Json.num) (by intro n hn; cases hn; simp [h])
    (by intro n hn; cases hn; simp [h]) (validProp_nums true none l (by intro q _ m hm; cases hm))
  simp only [schema_eval, specOf, Gen.validators, optAll, jtypeOk, h1]

theorem valid_file (A : Arith) (x : Parts) (dgeo ddes dpipe : Dict) :
    runValidator (specOf "validate_file_structure") (fileOf A x dgeo ddes dpipe) = .ok 0 := by
  simp only [schema_eval, specOf, Gen.validators, fileOf, validProp, optAll, jtypeOk]

theorem validators_eq : Gen.validators =
    [specOf "validate_file_structure", specOf "validate_fluid", specOf "validate_grout", specOf "validate_soil",
     specOf "validate_pipe", specOf "validate_borehole", specOf "validate_simulation", specOf "validate_geometric",
     specOf "validate_design", specOf "validate_loads"] := by
  simp [specOf, Gen.validators]

theorem specOf_sects :
    (specOf "validate_file_structure").sect = "" ∧
    (specOf "validate_fluid").sect = "fluid" ∧
    (specOf "validate_grout").sect = "grout" ∧
    (specOf "validate_soil").sect = "soil" ∧
    (specOf "validate_pipe").sect = "pipe" ∧
    (specOf "validate_borehole").sect = "borehole" ∧
    (specOf "validate_simulation").sect = "simulation" ∧
    (specOf "validate_geometric").sect = "geometric_constraints" ∧
    (specOf "validate_design").sect = "design" ∧
    (specOf "validate_loads").sect = "loads" := by
  simp [specOf, Gen.validators]

theorem validate_inputOf (A : Arith) (x : Parts) (h : StateValid A x) : validateInputFile (inputOf A x) = .ok 0 := by
  obtain ⟨l, hl, hlen⟩ := h.loads
  have e0 := valid_file A x (geoJ x.g x.p) (desJ x.d x.p) (pipeJ A x.pg x.rough x.prc x.pt)
  have e1 := valid_fluid x.f h.percent0 h.percent60
  have e2 := valid_grout x.gr h.groutK h.groutRc
  have e3 := valid_soil x.so h.soilK h.soilRc
  have e4 := valid_pipe A x.pg x.rough x.prc x.pt h.pipeOk h.pipe
  have e5 := valid_borehole A x.b h.depth
  have e6 := valid_simulation x.p h.months
  have e7 := valid_geo x.g x.p h.geom h.maxH h.minH
  have e8 := valid_design x.d x.p h.flow
  have e9 := valid_loads l hlen
  simp only [fileOf, hl] at e0
  unfold validateInputFile inputOf fileOf
  rw [validators_eq]
  obtain ⟨s0, s1, s2, s3, s4, s5, s6, s7, s8, s9⟩ := specOf_sects
  simp only [validateFrom, s0, s1, s2, s3, s4, s5, s6, s7, s8, s9]
  simp [pyGetItem, List.lookup, e0, e1, e2, e3, e4, e5, e6, e7, e8, hl, e9]

/-! ### The worker, stage by stage like the writer -/

theorem execS_call (A : Arith) (s : WState) (setter : String) (args : List RArg) :
    execS A s (.call setter args) = (evalArgs s.env args).bind fun kw =>
      (applySetter A s.m setter kw).bind fun r => .ok ({ s with m := r.1 }, r.2) := by
  rw [execS]
  cases evalArgs s.env args with
  | error e => rfl
  | ok kw => cases h : applySetter A s.m setter kw <;> simp [Except.bind, h]

attribute [worker_eval] execR.eq_1 execR.eq_2 execR.eq_3 execR.eq_4 execR.eq_5 execR.eq_6 execR.eq_7 execR.eq_8
  execSs.eq_1 execSs.eq_2 execS.eq_1 execS.eq_2 execS_call execS.eq_4 Except.bind.eq_1 Except.bind.eq_2 Except.map
  evalArgs varOf getPath pyGetItem pyGet parsePyConst List.lookup subjectLabel

/-- Spells out the stage's slice of `Gen.worker` and steps `execR` through it. -/
macro "r_open" : tactic => `(tactic| (
  simp only [Gen.worker, List.drop_succ_cons, List.drop_zero, List.take_succ_cons, List.take_zero, List.cons_append, List.nil_append]
  simp only [execR.eq_1, execR.eq_2, execR.eq_3, execR.eq_4, execR.eq_5, execR.eq_6, execR.eq_7, execR.eq_8]))

/-- Validation and bindings (12 statements); `set_fluid … set_pipe_type` (4); pipe chain; borehole, loads, simulation (5);
    geometry type; geometry chain; the rest. -/
theorem worker_stages : Gen.worker = Gen.worker.take 12 ++ ((Gen.worker.drop 12).take 4 ++ ((Gen.worker.drop 16).take 1 ++
    ((Gen.worker.drop 17).take 5 ++ ((Gen.worker.drop 22).take 1 ++ ((Gen.worker.drop 23).take 1 ++ Gen.worker.drop 24))))) := by
  simp [Gen.worker]

def ranAll : List String := ["find_design", "prepare_results", "write_output_files"]

/-- Re-reading recomputes the radians from the written degrees. -/
def reGeom (A : Arith) : Geom → Geom
  | .rowWise ratio minSp maxSp step _ _ rotStep pb ng minDeg maxDeg =>
      .rowWise ratio minSp maxSp step (A.toRad minDeg) (A.toRad maxDeg) rotStep pb ng minDeg maxDeg
  | g => g

theorem reGeom_type (A : Arith) (g : Geom) : (reGeom A g).type = g.type := by cases g <;> rfl

def envOf (A : Arith) (x : Parts) : REnv :=
  [("ground_load_props", .arr x.loads), ("design_props", .obj (desJ x.d x.p)), ("constraint_props", .obj (geoJ x.g x.p)),
   ("sim_props", .obj (simJ x.p)), ("borehole_props", .obj (boreJ A x.b)),
   ("pipe_props", .obj (pipeJ A x.pg x.rough x.prc x.pt)),
   ("soil_props", .obj (soilJ x.so)), ("grout_props", .obj (groutJ x.gr)), ("fluid_props", .obj (fluidJ x.f)),
   ("version", .str Gen.VERSION), ("inputs", inputOf A x)]

/-- The pipe object after re-reading: every radius goes through `half (dbl r)`. -/
def rePipe (A : Arith) : PipeGeom → PipeGeom
  | .utube rIn rOut s k => .utube (A.half (A.dbl rIn)) (A.half (A.dbl rOut)) s k
  | .coax a b c d ki ko => .coax (A.half (A.dbl a)) (A.half (A.dbl b)) (A.half (A.dbl c)) (A.half (A.dbl d)) ki ko

def reloaded (A : Arith) (x : Parts) : Mgr :=
  Mgr.mk (some x.f) (some x.gr) (some x.so) (some ⟨rePipe A x.pg, x.rough, x.prc⟩) (some x.pt)
    (some ⟨x.p.maxHeight, x.b.D, A.half (A.dbl x.b.rb)⟩) (some x.p) (some (.arr x.loads))
    (some x.g.type) (some (reGeom A x.g)) (some ⟨x.d.vFlow, x.d.flowType, x.g.type⟩)

theorem execR_sections (A : Arith) {r : String → Bool} (x : Parts) {m : Mgr} {atRun : Option Mgr} {ran : List String} {rest : List ROp}
    (hv : validateInputFile (inputOf A x) = .ok 0) :
    execR A r (inputOf A x) (Gen.worker.take 12 ++ rest) ⟨m, [("inputs", inputOf A x)], atRun, ran⟩
      = execR A r (inputOf A x) rest ⟨m, envOf A x, atRun, ran⟩ := by
  r_open
  simp only [hv]
  simp only [worker_eval, inputOf, fileOf, envOf]

theorem execR_media (A : Arith) {r : String → Bool} {file : Json} (x : Parts) {m : Mgr} {atRun : Option Mgr} {ran : List String}
    {rest : List ROp} :
    execR A r file ((Gen.worker.drop 12).take 4 ++ rest) ⟨m, envOf A x, atRun, ran⟩
      = execR A r file rest ⟨{ m with fluid := some x.f, grout := some x.gr, soil := some x.so, pipeType := some x.pt },
          envOf A x, atRun, ran⟩ := by
  r_open
  simp only [worker_eval, envOf, fluidJ, groutJ, soilJ, pipeJ_arr, set_fluid_cli A (fluid_ofName x.f.ftype), set_grout_eq, set_soil_eq, set_pipe_type_cli]

theorem execR_pipe (A : Arith) {r : String → Bool} {file : Json} (x : Parts) {m : Mgr} {atRun : Option Mgr} {ran : List String}
    {rest : List ROp} (hp : PipeOk x.pg x.pt) (hpt : m.pipeType = some x.pt) :
    execR A r file ((Gen.worker.drop 16).take 1 ++ rest) ⟨m, envOf A x, atRun, ran⟩
      = execR A r file rest ⟨{ m with pipe := some ⟨rePipe A x.pg, x.rough, x.prc⟩ }, envOf A x, atRun, ran⟩ := by
  obtain ⟨f, gr, so, pg, rough, prc, pt, b, p, loads, gt, g, d⟩ := x
  obtain ⟨m1, m2, m3, m4, m5, m6, m7, m8, m9, m10, m11⟩ := m
  subst hpt
  r_open
  cases pg with
  | utube rIn rOut s k =>
    cases pt with
    | coaxial => exact absurd rfl hp
    | singleUTube | doubleUTubeParallel | doubleUTubeSeries =>
      simp only [worker_eval, envOf, pipeJ, pipeRows, rePipe, PipeType.name, set_single_eq, set_dpar_eq, set_dser_eq]
  | coax a b c d ki ko =>
    have hp' : pt = .coaxial := hp
    subst hp'
    simp only [worker_eval, envOf, pipeJ, pipeRows, rePipe, PipeType.name, set_coax_eq]

theorem execR_sim (A : Arith) {r : String → Bool} {file : Json} (x : Parts) {m : Mgr} {atRun : Option Mgr} {ran : List String}
    {rest : List ROp} :
    execR A r file ((Gen.worker.drop 17).take 5 ++ rest) ⟨m, envOf A x, atRun, ran⟩
      = execR A r file rest ⟨{ m with borehole := some ⟨x.p.maxHeight, x.b.D, A.half (A.dbl x.b.rb)⟩, sim := some x.p,
                                      loads := some (.arr x.loads) },
          ("continue_if_design_unmet", .bool x.p.cont) :: ("max_bh", optJson x.p.maxBoreholes) :: envOf A x, atRun, ran⟩ := by
  have hb : (x.p.maxBoreholes.map Json.num).getD .null = optJson x.p.maxBoreholes := by cases x.p.maxBoreholes <;> rfl
  have hc : (if x.p.cont then some (Json.bool true) else none).getD (.bool false) = .bool x.p.cont := by cases x.p.cont <;> rfl
  r_open
  simp only [worker_eval, envOf, boreJ, simJ, geoJ_heights, desJ_max_eft, desJ_min_eft, desJ_max_boreholes, desJ_continue, hb, hc, set_borehole_eq, set_loads_cli,
    set_sim_eq]

theorem execR_geomType (A : Arith) {r : String → Bool} {file : Json} (g : Geom) (p : SimParams) {m : Mgr} {env : REnv}
    {atRun : Option Mgr} {ran : List String} {rest : List ROp} (hc : env.lookup "constraint_props" = some (.obj (geoJ g p))) :
    execR A r file ((Gen.worker.drop 22).take 1 ++ rest) ⟨m, env, atRun, ran⟩
      = execR A r file rest ⟨{ m with geomType := some g.type }, env, atRun, ran⟩ := by
  r_open
  simp only [worker_eval, hc, geoJ_method, set_geom_type_cli]

/-- The RowWise branch also binds the optional ratio. -/
def geomEnv (g : Geom) (env : REnv) : REnv :=
  match g with
  | .rowWise ratio .. => ("perimeter_spacing_ratio", optJson ratio) :: env
  | _ => env

theorem execR_geom (A : Arith) {r : String → Bool} {file : Json} (g : Geom) (p : SimParams) {m : Mgr} {env : REnv}
    {atRun : Option Mgr} {ran : List String} {rest : List ROp}
    (hgt : m.geomType = some g.type) (hs : GeomShape g) (hc : env.lookup "constraint_props" = some (.obj (geoJ g p))) :
    execR A r file ((Gen.worker.drop 23).take 1 ++ rest) ⟨m, env, atRun, ran⟩
      = execR A r file rest ⟨{ m with geom := some (reGeom A g) }, geomEnv g env, atRun, ran⟩ := by
  obtain ⟨m1, m2, m3, m4, m5, m6, m7, m8, m9, m10, m11⟩ := m
  subst hgt
  r_open
  cases g with
  | constrained bmin bx by' pb ng =>
    obtain ⟨⟨ps, rfl, hps⟩, ⟨ns, rfl, hns⟩⟩ := hs
    simp only [worker_eval, GeomType.name, Geom.type, hc, geoJ, geomRows, set_constrained_eq A (wrapIfFlat_polys ps hps) (wrapIfFlat_polys ns hns), reGeom,
      geomEnv]
  | rowWise ratio minSp maxSp step minRot maxRot rotStep pb ng minDeg maxDeg =>
    -- the split only lets `.get("perimeter_spacing_ratio")` be read off `geomRows`
    cases ratio with
    | none =>
      have e := fun m => set_rowwise_eq A m none
      simp only [optJson] at e
      simp only [worker_eval, GeomType.name, Geom.type, hc, geoJ, geomRows, optJson, e, reGeom, geomEnv]
    | some q =>
      have e := fun m => set_rowwise_eq A m (some q)
      simp only [optJson] at e
      simp only [worker_eval, GeomType.name, Geom.type, hc, geoJ, geomRows, optJson, e, reGeom, geomEnv]
  | _ =>
    simp only [worker_eval, GeomType.name, Geom.type, hc, geoJ, geomRows, set_near_square_eq, set_rectangle_eq, set_bi_rectangle_eq, set_bi_zoned_eq, reGeom, geomEnv]

theorem execR_design (A : Arith) {r : String → Bool} {file : Json} (g : Geom) (d : Design) (p : SimParams) {m : Mgr} {env : REnv}
    {atRun : Option Mgr} {ran : List String} (hr : ∀ s ∈ ranAll, r s = false)
    (hg : m.geom = some g) (hd : env.lookup "design_props" = some (.obj (desJ d p))) :
    execR A r file (Gen.worker.drop 24) ⟨m, env, atRun, ran⟩
      = .ok (0, ⟨{ m with design := some ⟨d.vFlow, d.flowType, g.type⟩ }, env,
                 atRun.orElse fun _ => some { m with design := some ⟨d.vFlow, d.flowType, g.type⟩ }, ran ++ ranAll⟩) := by
  simp only [ranAll, List.mem_cons, List.not_mem_nil, or_false, forall_eq_or_imp, forall_eq] at hr
  r_open
  cases atRun <;>
    simp [worker_eval, hd, hr, desJ_flow_rate, desJ_flow_type, set_design_cli A hg d.vFlow (flow_ofName d.flowType), ranAll,
      Option.orElse]

theorem worker_inputOf (A : Arith) (x : Parts) (hp : PipeOk x.pg x.pt) (hs : GeomShape x.g)
    (hv : validateInputFile (inputOf A x) = .ok 0) :
    ∃ env', worker A (fun _ => false) (inputOf A x)
      = .ok (0, WState.mk (reloaded A x) env' (some (reloaded A x)) ranAll) := by
  refine ⟨geomEnv x.g (("continue_if_design_unmet", .bool x.p.cont) :: ("max_bh", optJson x.p.maxBoreholes) :: envOf A x), ?_⟩
  unfold worker
  rw [worker_stages, execR_sections A x hv, execR_media, execR_pipe A x hp rfl, execR_sim,
    execR_geomType A x.g x.p (by simp [envOf, List.lookup]), execR_geom A x.g x.p rfl hs (by simp [envOf, List.lookup]),
    execR_design A (reGeom A x.g) x.d x.p (fun _ _ => rfl) rfl (by cases x.g <;> simp [geomEnv, envOf, List.lookup])]
  simp [reloaded, reGeom_type]

/-! ### What the worker reloads; configurations of the documented domain give valid states -/

theorem load_inputOf (A : Arith) (x : Parts) (hp : PipeOk x.pg x.pt) (hs : GeomShape x.g)
    (hv : validateInputFile (inputOf A x) = .ok 0) : load A (inputOf A x) = .ok (some (reloaded A x)) := by
  obtain ⟨env', hw⟩ := worker_inputOf A x hp hs hv
  simp [load, hw]

theorem reloaded_eq_normalise (A : Arith) (x : Parts) (h1 : rePipe A x.pg = x.pg) (h2 : reGeom A x.g = x.g)
    (h3 : A.half (A.dbl x.b.rb) = x.b.rb) (h4 : x.d.gtype = x.g.type) : reloaded A x = normalise x.mgr := by
  rw [normalise_mgr]
  simp [reloaded, Parts.mgr, h1, h2, h3, ← h4]

theorem rePipe_pipeGeomOf (A : Arith) (hA : A.Exact) (pa : PipeArgs) : rePipe A (pipeGeomOf A pa) = pipeGeomOf A pa := by
  cases pa <;> simp [rePipe, pipeGeomOf, hA.half_dbl]

theorem reGeom_geomOf (A : Arith) (ga : GeomArgs) : reGeom A (geomOf A ga) = geomOf A ga := by cases ga <;> rfl

/-! From `GeomArgsValid`: the call does not raise, the section validates, the worker's second call does not raise. -/

theorem GeomArgsValid.shape {ga : GeomArgs} (h : GeomArgsValid ga) : GeomArgsShape ga := by
  cases ga with
  | constrained bmin bx by' pb ng =>
    obtain ⟨_, _, _, _, _, hpb, hng⟩ := h
    exact ⟨hpb, hng⟩
  | _ => trivial

theorem GeomArgsValid.geomShape (A : Arith) {ga : GeomArgs} (h : GeomArgsValid ga) : GeomShape (geomOf A ga) := by
  cases ga with
  | constrained bmin bx by' pb ng =>
    obtain ⟨_, _, _, _, _, hpb, hng⟩ := h
    exact ⟨⟨pb, rfl, hpb⟩, ⟨ng, rfl, hng⟩⟩
  | _ => trivial

theorem GeomArgsValid.geomValid (A : Arith) {ga : GeomArgs} (h : GeomArgsValid ga) : GeomValid (geomOf A ga) := by
  cases ga with
  | nearSquare b l => exact h
  | rectangle | biRectangle | biZoned =>
    -- the object takes width before length
    obtain ⟨hl, hw, hrest⟩ := h
    exact ⟨hw, hl, hrest⟩
  | constrained bmin bx by' pb ng =>
    obtain ⟨h1, h2, h3, hpb, hng, _, _⟩ := h
    exact ⟨h1, h2, h3, ⟨pb, rfl, hpb⟩, ⟨ng, rfl, hng⟩⟩
  | rowWise ratio maxSp minSp step maxRot minRot rotStep pb ng =>
    obtain ⟨hratio, hmaxSp, hminSp, hstep, hmax1, hmax2, hmin1, hmin2, hpb, hng⟩ := h
    exact ⟨hratio, hminSp, hmaxSp, hstep, hmin1, hmin2, hmax1, hmax2, ⟨pb, rfl, hpb⟩, ⟨ng, rfl, hng⟩⟩

theorem PipeArgsValid.pipeValid (A : Arith) (hA : A.Exact) {pa : PipeArgs} (h : PipeArgsValid pa) :
    PipeValid A (pipeGeomOf A pa) pa.rough pa.rhoCp := by
  cases pa with
  | single a b s r k c | doublePar a b s r k c | doubleSer a b s r k c =>
    obtain ⟨ha, hb, hs, hr, hk, hc⟩ := h
    exact ⟨hr, hc, (hA.dbl_half a).symm ▸ ha, (hA.dbl_half b).symm ▸ hb, hs, hk⟩
  | coaxial a b c d r ki ko rc =>
    obtain ⟨ha, hb, hc, hd, hr, hki, hko, hrc⟩ := h
    exact ⟨hr, hrc, (hA.dbl_half a).symm ▸ ha, (hA.dbl_half b).symm ▸ hb, (hA.dbl_half c).symm ▸ hc, (hA.dbl_half d).symm ▸ hd,
      hki, hko⟩

theorem stateValid_of_api (A : Arith) (hA : A.Exact) (c : Config) (h : ApiValid c) (ft : FluidType) (fl : FlowCfg) :
    StateValid A (partsOf A c ft fl) :=
  ⟨pipeOk_partsOf A c ft fl, h.percent0, h.percent60, h.groutK, h.groutRc, h.soilK, h.soilRc, h.pipe.pipeValid A hA, h.depth,
    h.months, h.maxH, h.minH, h.geom.geomValid A, h.flow, ⟨c.loads, rfl, h.loads⟩⟩

theorem build_of_api (A : Arith) {c : Config} (h : ApiValid c) : ∃ ft fl, build A c = .ok (partsOf A c ft fl).mgr := by
  obtain ⟨ft, hf⟩ := h.fluid
  obtain ⟨fl, hfl⟩ := h.flowType
  exact ⟨ft, fl, build_eq A c ft fl hf hfl h.geom.shape⟩

end GHEVerif.Config

namespace GHEVerif.Cli
open GHEVerif GHEVerif.Gen GHEVerif.Config

/-! ### Validation verdict and exit status (Model/Cli.lean) -/

theorem validateFrom_zero_iff (inst : Json) (vs : List ValidatorSpec) :
    validateFrom inst vs = .ok 0 ↔ ∀ v ∈ vs, ∃ a, sectionArg inst v = .ok a ∧ runValidator v a = .ok 0 := by
  induction vs with
  | nil => simp [validateFrom]
  | cons v rest ih =>
    simp only [validateFrom, List.mem_cons, forall_eq_or_imp]
    rw [← ih]
    unfold sectionArg
    cases (if v.sect = "" then Except.ok inst else pyGetItem inst v.sect) with
    | error e => simp
    | ok a =>
      cases h2 : runValidator v a with
      | error e => simp [h2]
      | ok n =>
        cases validateFrom inst rest with
        | error e => simp [h2]
        | ok m =>
          simp only [h2, Except.ok.injEq, exists_eq_left']
          exact Nat.add_eq_zero_iff

/-- Where the statement can end the worker, its return code is not 0. -/
def opNoZero : ROp → Bool
  | .validateGuard rc => rc ≠ 0
  | .callGuard _ rc => rc ≠ 0
  | .chain _ _ _ elseRet => elseRet ≠ some 0
  | .ret code => code ≠ 0
  | _ => true

/-- Along the `match`es of `execR`: `h` is an exception, a non-zero return (`nz`) or the run of the rest (`ih`). -/
theorem execR_prefix (A : Arith) (r : String → Bool) (file : Json) (pre post : List ROp) (hpre : pre.all opNoZero = true) :
    ∀ (s s' : WState), execR A r file (pre ++ post) s = .ok (0, s') → ∃ s1, execR A r file post s1 = .ok (0, s') := by
  induction pre with
  | nil => intro s s' h; exact ⟨s, h⟩
  | cons op pre ih =>
    simp only [List.all_cons, Bool.and_eq_true] at hpre
    obtain ⟨hop, hrest⟩ := hpre
    intro s s' h
    have nz : ∀ {rc : Int} {s1 : WState}, rc ≠ 0 → (Except.ok (rc, s1) : Py (Int × WState)) ≠ .ok (0, s') := by
      intro rc s1 hrc e
      simp only [Except.ok.injEq, Prod.mk.injEq] at e
      exact hrc e.1
    cases op with
    | simple o =>
      simp only [List.cons_append, execR] at h
      split at h
      · cases h
      · exact ih hrest _ _ h
    | validateGuard rc =>
      simp only [List.cons_append, execR] at h
      split at h
      · cases h
      · split at h
        · exact absurd h (nz (by simpa [opNoZero] using hop))
        · exact ih hrest _ _ h
    | versionCheck => exact ih hrest _ _ h
    | callGuard o rc =>
      simp only [List.cons_append, execR] at h
      split at h
      · cases h
      · split at h
        · exact absurd h (nz (by simpa [opNoZero] using hop))
        · exact ih hrest _ _ h
    | chain subject branches elseOps elseRet =>
      simp only [List.cons_append, execR] at h
      split at h
      · cases h
      · split at h
        · split at h
          · cases h
          · exact ih hrest _ _ h
        · split at h
          · cases h
          · split at h
            · next rc _ => exact absurd h (nz (fun e => by simp [opNoZero, e] at hop))
            · exact ih hrest _ _ h
    | run what =>
      simp only [List.cons_append, execR] at h
      split at h
      · cases h
      · exact ih hrest _ _ h
    | ret code =>
      simp only [List.cons_append, execR] at h
      exact absurd h (nz (by simpa [opNoZero] using hop))

/-- Unlike `Config.worker_stages` this split spells its tail out, so it is checked against the table. -/
theorem worker_split : Gen.worker = Gen.worker.take 25 ++ [.run "find_design", .run "prepare_results", .run "write_output_files", .ret 0] := by
  simp [Gen.worker]

theorem worker_zero_outputs (A : Arith) (r : String → Bool) (file : Json) (s : WState)
    (h : worker A r file = .ok (0, s)) :
    s.ran.contains "write_output_files" = true ∧ r "find_design" = false ∧ r "prepare_results" = false ∧ r "write_output_files" = false := by
  unfold Config.worker at h
  rw [worker_split] at h
  obtain ⟨s1, h1⟩ := execR_prefix A r file _ _ (by decide) _ _ h
  simp only [execR] at h1
  by_cases a : r "find_design" = true
  · simp [a] at h1
  · by_cases b : r "prepare_results" = true
    · simp [a, b] at h1
    · by_cases c : r "write_output_files" = true
      · simp [a, b, c] at h1
      · simp [a, b, c] at h1
        subst h1
        simp_all

theorem worker_invalid (A : Arith) (r : String → Bool) (file : Json) (n : Nat) (hv : validateInputFile file = .ok n) (hn : n ≠ 0) :
    ∃ s, worker A r file = .ok (1, s) := by
  unfold Config.worker
  simp [Gen.worker, execR, hv, hn]

theorem worker_validation_raises (A : Arith) (r : String → Bool) (file : Json) (e : PyErr) (hv : validateInputFile file = .error e) :
    worker A r file = .error e := by
  unfold Config.worker
  simp [Gen.worker, execR, hv]

theorem workerFile_zero_outputs (w : World) (s : WState) (h : workerFile w = .ok (0, s)) :
    s.ran.contains "write_output_files" = true ∧ w.raisesAt "find_design" = false ∧ w.raisesAt "prepare_results" = false ∧
      w.raisesAt "write_output_files" = false := by
  unfold workerFile onFile at h
  cases hf : w.file with
  | none => simp [hf] at h
  | some j => simp [hf] at h; exact worker_zero_outputs _ _ _ _ h

attribute [cli_eval] processExit run callback Gen.cliPaths pickPath guardsHold evalGuard exitOf isWorkerCall convertTruthy

theorem callback_exit_zero_iff (vo : Bool) (cv : Option String) (od : Bool) (w : World) :
    processExit (.call vo cv od) w = 0 ↔
      (vo = true ∧ validateFile w = .ok 0) ∨
      (vo = false ∧ cv = some "IDF" ∧ w.idfRaises = false) ∨
      (vo = false ∧ convertTruthy cv = false ∧ od = true ∧ ∃ s, workerFile w = .ok (0, s)) := by
  cases vo with
  | true =>
    cases hv : validateFile w with
    | error e => simp only [cli_eval, hv]
    | ok n =>
      by_cases hn : n = 0
      · subst hn; simp only [cli_eval, hv]
      · simp only [cli_eval, hv, hn]
  | false =>
    cases cv with
    | none =>
      cases od with
      | false => simp only [cli_eval]
      | true =>
        cases hw : workerFile w with
        | error e => simp [cli_eval, hw]
        | ok r => obtain ⟨rc, s⟩ := r; simp [cli_eval, hw]
    | some c =>
      by_cases h0 : c = ""
      · subst h0
        cases od with
        | false => simp only [cli_eval]
        | true =>
          cases hw : workerFile w with
          | error e => simp [cli_eval, hw]
          | ok r => obtain ⟨rc, s⟩ := r; simp [cli_eval, hw]
      · by_cases hi : c = "IDF"
        · subst hi
          cases hr : w.idfRaises <;> simp only [cli_eval, hr]
        · simp only [cli_eval, h0, hi]

theorem validateFile_noSections (r : String → Bool) (b : Bool) : validateFile ⟨some (.obj []), r, b⟩ = .error .keyError := by
  simp [validateFile, onFile, validateInputFile, Gen.validators, validateFrom, pyGetItem, List.lookup]
  simp only [schema_eval, optAll, jtypeOk]

theorem workerFile_zero_valid (w : World) (s : WState) (h : workerFile w = .ok (0, s)) : validateFile w = .ok 0 := by
  unfold workerFile onFile at h
  unfold validateFile onFile
  cases hf : w.file with
  | none => simp [hf] at h
  | some j =>
    simp only [hf] at h ⊢
    cases hv : validateInputFile j with
    | error e => rw [worker_validation_raises _ _ _ e hv] at h; cases h
    | ok n =>
      by_cases hn : n = 0
      · rw [hn]
      · obtain ⟨s1, h1⟩ := worker_invalid exactArith w.raisesAt j n hv hn
        rw [h1] at h; cases h

end GHEVerif.Cli
