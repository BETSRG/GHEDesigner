/- `ghe_time_convert` and `hours_to_month` for any table of month lengths: the invariants of the two
   month searches and, for positive lengths, the month counter `G` within a year and the value `F` of
   `hours_to_month` over the years, with their closed forms on each month (`G_prefix`, `F_prefix`). -/
import GHEVerif.Model.TimeConv
import Mathlib.Tactic.Linarith
import Mathlib.Tactic.Ring
import Mathlib.Tactic.Positivity
import Mathlib.Algebra.Order.Floor.Ring
import Mathlib.Data.Rat.Floor

namespace GHEVerif.TimeConv

/-- Loop invariant of the month search in `ghe_time_convert`. -/
theorem gtcFind_spec (h : Int) (L : List Int) :
    ∀ (idx : Nat) (s : Int), s ≤ h → h < s + L.sum →
      idx ≤ gtcFind h idx s L ∧ gtcFind h idx s L < idx + L.length ∧
      s + (L.take (gtcFind h idx s L - idx)).sum ≤ h ∧
      h < s + (L.take (gtcFind h idx s L - idx + 1)).sum := by
  induction L with
  | nil => intro idx s h1 h2; simp at h2; omega
  | cons a L ih =>
    intro idx s h1 h2
    simp only [List.sum_cons] at h2
    unfold gtcFind
    by_cases hc : s + a - 1 ≥ h
    · simp only [hc, if_true]
      simp; omega
    · simp only [hc, if_false]
      obtain ⟨i1, i2, i3, i4⟩ := ih (idx + 1) (s + a) (by omega) (by omega)
      have e : gtcFind h (idx + 1) (s + a) L - idx = (gtcFind h (idx + 1) (s + a) L - (idx + 1)) + 1 := by omega
      refine ⟨by omega, by simp; omega, ?_, ?_⟩
      · rw [e, List.take_succ_cons, List.sum_cons]; omega
      · rw [e, List.take_succ_cons, List.sum_cons]; omega

/-- Months elapsed inside the year after `r` hours (specification side of `hours_to_month`). -/
def G : List Int → Rat → Rat
  | [], _ => 0
  | t :: ts, r => if r ≤ (t : Rat) then r / (t : Rat) else 1 + G ts (r - (t : Rat))

theorem pos_cons {a : Int} {L : List Int} (hpos : ∀ t ∈ a :: L, 0 < t) : (0 : Rat) < (a : Rat) ∧ ∀ t ∈ L, 0 < t :=
  ⟨by exact_mod_cast hpos a List.mem_cons_self, fun t ht => hpos t (List.mem_cons_of_mem _ ht)⟩

@[simp] theorem sumR_nil : sumR [] = 0 := by simp [sumR]
@[simp] theorem sumR_cons (a : Int) (L : List Int) : sumR (a :: L) = (a : Rat) + sumR L := by simp [sumR]

theorem sumR_nonneg (L : List Int) (hpos : ∀ t ∈ L, 0 < t) : 0 ≤ sumR L := by
  induction L with
  | nil => simp
  | cons a L ih =>
    obtain ⟨ha, hpos'⟩ := pos_cons hpos
    have := ih hpos'
    simp; linarith

theorem sumR_pos (L : List Int) (hpos : ∀ t ∈ L, 0 < t) (hne : L ≠ []) : 0 < sumR L := by
  cases L with
  | nil => exact absurd rfl hne
  | cons a L =>
    obtain ⟨ha, hpos'⟩ := pos_cons hpos
    have := sumR_nonneg L hpos'
    simp; linarith

theorem sumR_take_succ (L : List Int) (n : Nat) (h : n < L.length) :
    sumR (L.take (n + 1)) = sumR (L.take n) + (L[n] : Rat) := by
  rw [List.take_succ_eq_append_getElem h, sumR, List.map_append, List.sum_append]; simp [sumR]

theorem sumR_take_le (L : List Int) (hpos : ∀ t ∈ L, 0 < t) (n : Nat) : sumR (L.take n) ≤ sumR L := by
  have := sumR_nonneg (L.drop n) (fun t ht => hpos t (List.mem_of_mem_drop ht))
  have e : sumR L = sumR (L.take n) + sumR (L.drop n) := by
    simp only [sumR, ← List.sum_append, ← List.map_append, List.take_append_drop]
  linarith

/-- Loop invariant of the month search in `hours_to_month`. -/
theorem htmFind_spec (r : Rat) (L : List Int) :
    ∀ (idx : Nat) (s : Rat), L ≠ [] → r - s ≤ sumR L →
      idx ≤ htmFind r idx s L ∧
      ∃ t, L[htmFind r idx s L - idx]? = some t ∧
        ((htmFind r idx s L - idx : Nat) : Rat) + (r - s - sumR (L.take (htmFind r idx s L - idx))) / (t : Rat)
          = G L (r - s) := by
  induction L with
  | nil => intro idx s hne; exact absurd rfl hne
  | cons a L ih =>
    intro idx s _ hle
    unfold htmFind
    by_cases hc : s + (a : Rat) ≥ r
    · simp only [hc, if_true]
      refine ⟨le_refl _, a, by rw [Nat.sub_self]; rfl, ?_⟩
      have : r - s ≤ (a : Rat) := sub_le_iff_le_add'.2 hc
      simp [G, this]
    · simp only [hc, if_false]
      have hgt : ¬ (r - s ≤ (a : Rat)) := fun h => hc (sub_le_iff_le_add'.1 h)
      rw [sumR_cons] at hle
      have hne' : L ≠ [] := by
        intro h; subst h; rw [sumR_nil, add_zero] at hle; exact hgt hle
      have hle' : r - (s + (a : Rat)) ≤ sumR L := by linarith
      obtain ⟨i1, t, ht, hv⟩ := ih (idx + 1) (s + (a : Rat)) hne' hle'
      set m := htmFind r (idx + 1) (s + (a : Rat)) L with hm
      have e : m - idx = (m - (idx + 1)) + 1 := by omega
      refine ⟨by omega, t, ?_, ?_⟩
      · rw [e, List.getElem?_cons_succ]; exact ht
      · rw [e, List.take_succ_cons, sumR_cons]
        simp only [G, hgt, if_false]
        rw [← sub_sub r s (a : Rat)] at hv
        rw [← hv]; push_cast; ring

theorem G_nonneg (L : List Int) (hpos : ∀ t ∈ L, 0 < t) : ∀ r, 0 ≤ r → 0 ≤ G L r := by
  induction L with
  | nil => intro r _; simp [G]
  | cons a L ih =>
    intro r hr
    obtain ⟨ha, hpos'⟩ := pos_cons hpos
    unfold G
    split
    · positivity
    · have := ih hpos' (r - a) (by linarith); linarith

theorem G_zero (L : List Int) (hpos : ∀ t ∈ L, 0 < t) : G L 0 = 0 := by
  cases L with
  | nil => simp [G]
  | cons a L =>
    simp [G, le_of_lt (pos_cons hpos).1]

/-- At the month end itself both branches give 1. -/
theorem G_cons_of_ge {a : Int} {L : List Int} (hpos : ∀ t ∈ a :: L, 0 < t) {r : Rat} (h : (a : Rat) ≤ r) :
    G (a :: L) r = 1 + G L (r - (a : Rat)) := by
  obtain ⟨ha, hpos'⟩ := pos_cons hpos
  simp only [G]
  split_ifs with c
  · rw [le_antisymm c h, div_self ha.ne', sub_self, G_zero L hpos', add_zero]
  · rfl

/-- Both ends of the month included. -/
theorem G_prefix (L : List Int) (hpos : ∀ t ∈ L, 0 < t) :
    ∀ (m : Nat) (hm : m < L.length) (x : Rat), 0 ≤ x → x ≤ (L[m] : Rat) →
      G L (sumR (L.take m) + x) = (m : Rat) + x / (L[m] : Rat) := by
  induction L with
  | nil => intro m hm; simp at hm
  | cons a L ih =>
    intro m hm x hx0 hx1
    have hpos' := (pos_cons hpos).2
    cases m with
    | zero =>
      simp only [List.take_zero, sumR_nil, zero_add, List.getElem_cons_zero] at hx1 ⊢
      simp [G, hx1]
    | succ k =>
      have hm' : k < L.length := by simpa using hm
      simp only [List.take_succ_cons, sumR_cons, List.getElem_cons_succ] at hx1 ⊢
      have hs := sumR_nonneg (L.take k) (fun t ht => hpos' t (List.mem_of_mem_take ht))
      rw [G_cons_of_ge hpos ((le_add_of_nonneg_right hs).trans (le_add_of_nonneg_right hx0)), add_assoc, add_sub_cancel_left, ih hpos' k hm' x hx0 hx1]
      push_cast; ring

theorem G_take (L : List Int) (hpos : ∀ t ∈ L, 0 < t) (m : Nat) (hm : m ≤ L.length) :
    G L (sumR (L.take m)) = (m : Rat) := by
  cases m with
  | zero => rw [List.take_zero, sumR_nil, G_zero L hpos, Nat.cast_zero]
  | succ k =>
    have hk : (0 : Rat) < (L[k] : Rat) := by exact_mod_cast hpos _ (List.getElem_mem hm)
    rw [sumR_take_succ L k hm, G_prefix L hpos k hm _ hk.le le_rfl, div_self hk.ne', Nat.cast_succ]

theorem G_total (L : List Int) (hpos : ∀ t ∈ L, 0 < t) : G L (sumR L) = (L.length : Rat) := by
  rw [← G_take L hpos L.length le_rfl, List.take_length]

theorem G_strictMono (L : List Int) (hpos : ∀ t ∈ L, 0 < t) :
    ∀ r1 r2, 0 ≤ r1 → r1 < r2 → r2 ≤ sumR L → G L r1 < G L r2 := by
  induction L with
  | nil => intro r1 r2 h0 h1 h2; simp at h2; linarith
  | cons a L ih =>
    intro r1 r2 _ h1 h2
    obtain ⟨ha, hpos'⟩ := pos_cons hpos
    simp only [sumR_cons] at h2
    unfold G
    by_cases c1 : r1 ≤ (a : Rat)
    · by_cases c2 : r2 ≤ (a : Rat)
      · simp only [c1, c2, if_true]
        exact div_lt_div_of_pos_right h1 ha
      · simp only [c1, c2, if_true, if_false]
        have := ih hpos' 0 (r2 - a) le_rfl (sub_pos.2 (not_le.1 c2)) (sub_le_iff_le_add'.2 h2)
        rw [G_zero L hpos'] at this
        exact ((div_le_one ha).2 c1).trans_lt (lt_add_of_pos_right 1 this)
    · have c2 : ¬ r2 ≤ (a : Rat) := fun h => c1 (h1.le.trans h)
      simp only [c1, c2, if_false]
      have := ih hpos' (r1 - a) (r2 - a) (sub_pos.2 (not_le.1 c1)).le (sub_lt_sub_right h1 a) (sub_le_iff_le_add'.2 h2)
      linarith

theorem G_lt_length (L : List Int) (hpos : ∀ t ∈ L, 0 < t) (r : Rat) (h0 : 0 ≤ r) (h1 : r < sumR L) :
    G L r < (L.length : Rat) := by
  rw [← G_total L hpos]; exact G_strictMono L hpos r (sumR L) h0 h1 (le_refl _)

/-- The value `hours_to_month` returns. -/
def F (T : List Int) (h : Rat) : Rat :=
  ((Rat.floor (h / sumR T) : Int) : Rat) * (T.length : Rat)
    + G T (h - ((Rat.floor (h / sumR T) : Int) : Rat) * sumR T)

theorem hoursToMonthT_eq (T : List Int) (hpos : ∀ t ∈ T, 0 < t) (hne : T ≠ []) (h : Rat) :
    hoursToMonthT T h = .ok (F T h) := by
  have hS := sumR_pos T hpos hne
  have hr1 : h - ((Rat.floor (h / sumR T) : Int) : Rat) * sumR T < sumR T := Int.sub_floor_div_mul_lt h hS
  unfold F
  set y : Int := Rat.floor (h / sumR T) with hy
  obtain ⟨_, t, ht, hv⟩ := htmFind_spec (h - (y : Rat) * sumR T) T 0 0 hne (by linarith)
  simp only [Nat.sub_zero, sub_zero] at ht hv
  have htpos : 0 < t := hpos t (List.mem_of_getElem? ht)
  unfold hoursToMonthT
  simp only [ne_of_gt hS, if_false, ← hy, ht, ne_of_gt htpos]
  rw [← hv, add_assoc]

theorem floor_year (S : Rat) (hS : 0 < S) (y : Int) (r : Rat) (h0 : 0 ≤ r) (h1 : r < S) :
    Rat.floor (((y : Rat) * S + r) / S) = y := by
  refine (Int.floor_eq_iff (R := Rat)).mpr ⟨?_, ?_⟩
  · rw [le_div_iff₀ hS]; linarith
  · rw [div_lt_iff₀ hS]; linarith

/-- `r ≤` one year, end included: the year-end value from the left agrees with the year-start value. -/
theorem F_year_shift (T : List Int) (hpos : ∀ t ∈ T, 0 < t) (hne : T ≠ []) (y : Int) (r : Rat)
    (h0 : 0 ≤ r) (h1 : r ≤ sumR T) :
    F T ((y : Rat) * sumR T + r) = (y : Rat) * (T.length : Rat) + G T r := by
  have hS := sumR_pos T hpos hne
  rcases lt_or_eq_of_le h1 with hlt | heq
  · unfold F
    rw [floor_year (sumR T) hS y r h0 hlt]
    congr 1; congr 1; ring
  · subst heq
    have e : (y : Rat) * sumR T + sumR T = ((y + 1 : Int) : Rat) * sumR T + 0 := by push_cast; ring
    unfold F
    rw [e, floor_year (sumR T) hS (y + 1) 0 (le_refl _) hS, G_total T hpos]
    rw [add_sub_cancel_left, G_zero T hpos]; push_cast; ring

theorem F_prefix (T : List Int) (hpos : ∀ t ∈ T, 0 < t) (hne : T ≠ []) (y : Int) (m : Nat) (hm : m < T.length)
    (x : Rat) (hx0 : 0 ≤ x) (hx1 : x ≤ (T[m] : Rat)) :
    F T ((y : Rat) * sumR T + (sumR (T.take m) + x)) = (y : Rat) * (T.length : Rat) + ((m : Rat) + x / (T[m] : Rat)) := by
  have hc0 := sumR_nonneg (T.take m) (fun t ht => hpos t (List.mem_of_mem_take ht))
  have hc1 : sumR (T.take m) + x ≤ sumR T := by
    have h1 := sumR_take_succ T m hm
    have h2 := sumR_take_le T hpos (m + 1)
    linarith
  rw [F_year_shift T hpos hne y _ (by linarith) hc1, G_prefix T hpos m hm x hx0 hx1]

theorem F_strictMono (T : List Int) (hpos : ∀ t ∈ T, 0 < t) (hne : T ≠ []) (h1 h2 : Rat) (hlt : h1 < h2) :
    F T h1 < F T h2 := by
  have hS := sumR_pos T hpos hne
  have r10 : 0 ≤ h1 - ((Rat.floor (h1 / sumR T) : Int) : Rat) * sumR T := Int.sub_floor_div_mul_nonneg h1 hS
  have r11 : h1 - ((Rat.floor (h1 / sumR T) : Int) : Rat) * sumR T < sumR T := Int.sub_floor_div_mul_lt h1 hS
  have r20 : 0 ≤ h2 - ((Rat.floor (h2 / sumR T) : Int) : Rat) * sumR T := Int.sub_floor_div_mul_nonneg h2 hS
  have r21 : h2 - ((Rat.floor (h2 / sumR T) : Int) : Rat) * sumR T < sumR T := Int.sub_floor_div_mul_lt h2 hS
  have hle : Rat.floor (h1 / sumR T) ≤ Rat.floor (h2 / sumR T) :=
    Int.floor_le_floor (R := Rat) ((div_le_div_iff_of_pos_right hS).2 hlt.le)
  set y1 : Int := Rat.floor (h1 / sumR T) with hy1
  set y2 : Int := Rat.floor (h2 / sumR T) with hy2
  unfold F
  rw [← hy1, ← hy2]
  rcases lt_or_eq_of_le hle with hlt' | heq
  · have g1 := G_lt_length T hpos _ r10 r11
    have g2 := G_nonneg T hpos _ r20
    have hy : (y1 : Rat) + 1 ≤ (y2 : Rat) := by exact_mod_cast hlt'
    -- an earlier year: `y1·len + G r1 < (y1 + 1)·len ≤ y2·len ≤ y2·len + G r2`
    have := mul_le_mul_of_nonneg_right hy (Nat.cast_nonneg T.length : (0 : Rat) ≤ (T.length : Rat))
    linarith
  · rw [← heq] at r21 ⊢
    have := G_strictMono T hpos _ _ r10 (sub_lt_sub_right hlt _)
      (le_of_lt r21)
    linarith

end GHEVerif.TimeConv
