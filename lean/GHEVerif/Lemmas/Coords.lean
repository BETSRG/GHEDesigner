/- The coordinate generators of coordinates.py at `R = id`: on the land and separated; the relative error of
   `fl64`; closeness of the rounded and the exact instance. -/
import GHEVerif.Model.Coords
import GHEVerif.Lemmas.Py
import Mathlib.Tactic.Linarith
import Mathlib.Tactic.Ring
import Mathlib.Tactic.FieldSimp
import Mathlib.Tactic.Positivity
import Mathlib.Algebra.Order.Floor.Ring
import Mathlib.Data.Rat.Floor
import Mathlib.Algebra.Order.Field.Power
import Mathlib.Tactic.NormNum

namespace GHEVerif.Coords

/-- Every borehole of the field lies in the rectangle `[0, Lx] × [0, Ly]`. -/
def InLand (Lx Ly : Rat) (f : Field) : Prop :=
  ∀ p ∈ f, 0 ≤ p.1 ∧ p.1 ≤ Lx ∧ 0 ≤ p.2 ∧ p.2 ≤ Ly

/-- They differ by at least `d` in one coordinate (hence their distance is at least `d`). -/
def SepP (d : Rat) (p q : Point) : Prop := d ≤ |p.1 - q.1| ∨ d ≤ |p.2 - q.2|

/-- For `d > 0` this contains "no coincident boreholes" and "distance ≥ d" (`Sep.spaced`). -/
def Sep (d : Rat) (f : Field) : Prop := f.Pairwise (SepP d)

theorem SepP.symm {d : Rat} {p q : Point} (h : SepP d p q) : SepP d q p := by
  unfold SepP
  rwa [abs_sub_comm q.1, abs_sub_comm q.2]

theorem SepP.dist_sq {d : Rat} {p q : Point} (hd : 0 ≤ d) (h : SepP d p q) :
    d ^ 2 ≤ (p.1 - q.1) ^ 2 + (p.2 - q.2) ^ 2 := by
  rcases h with h | h
  · have := pow_le_pow_left₀ hd h 2
    rw [sq_abs] at this
    exact this.trans (le_add_of_nonneg_right (sq_nonneg _))
  · have := pow_le_pow_left₀ hd h 2
    rw [sq_abs] at this
    exact this.trans (le_add_of_nonneg_left (sq_nonneg _))

theorem SepP.ne {d : Rat} {p q : Point} (hd : 0 < d) (h : SepP d p q) : p ≠ q := by
  rintro rfl
  rcases h with h | h <;> simp at h <;> linarith

theorem Sep.mono {d d' : Rat} {f : Field} (hdd : d ≤ d') (h : Sep d' f) : Sep d f :=
  List.Pairwise.imp (Or.imp (le_trans hdd) (le_trans hdd)) h

theorem Sep.spaced {d : Rat} {f : Field} (hd : 0 < d) (h : Sep d f) :
    f.Nodup ∧ f.Pairwise (fun p q => d ^ 2 ≤ (p.1 - q.1) ^ 2 + (p.2 - q.2) ^ 2) :=
  ⟨List.Pairwise.imp (SepP.ne hd) h, List.Pairwise.imp (SepP.dist_sq hd.le) h⟩

theorem InLand.mono {W H W' H' : Rat} {f : Field} (h : InLand W' H' f) (hW : W' ≤ W) (hH : H' ≤ H) : InLand W H f := by
  intro p hp
  obtain ⟨x0, xW, y0, yH⟩ := h p hp
  exact ⟨x0, le_trans xW hW, y0, le_trans yH hH⟩

theorem inLand_transpose {Lx Ly : Rat} {f : Field} (h : InLand Lx Ly f) : InLand Ly Lx (transpose f) := by
  intro p hp
  simp only [transpose, List.mem_map] at hp
  obtain ⟨q, hq, rfl⟩ := hp
  obtain ⟨a, b, c, d⟩ := h q hq
  exact ⟨c, d, a, b⟩

theorem sep_transpose {d : Rat} {f : Field} (h : Sep d f) : Sep d (transpose f) := by
  unfold Sep transpose
  exact List.pairwise_map.mpr (List.Pairwise.imp Or.symm h)

@[simp] theorem length_transpose (f : Field) : (transpose f).length = f.length := by simp [transpose]

/-! ### rectangle -/

theorem mem_rectangleO {nx ny : Int} {sx sy x0 y0 : Rat} {p : Point} :
    p ∈ rectangleO id nx ny sx sy x0 y0 ↔
      ∃ i < nx.toNat, ∃ j < ny.toNat, p = (x0 + (i : Rat) * sx, y0 + (j : Rat) * sy) := by
  simp only [rectangleO, id_eq, List.mem_flatMap, List.mem_map, List.mem_range]
  constructor
  · rintro ⟨x, ⟨i, hi, rfl⟩, y, ⟨j, hj, rfl⟩, rfl⟩
    exact ⟨i, hi, j, hj, rfl⟩
  · rintro ⟨i, hi, j, hj, rfl⟩
    exact ⟨_, ⟨i, hi, rfl⟩, _, ⟨j, hj, rfl⟩, rfl⟩

theorem mem_rectangle {nx ny : Int} {sx sy : Rat} {p : Point} :
    p ∈ rectangle id nx ny sx sy ↔
      ∃ i < nx.toNat, ∃ j < ny.toNat, p = ((i : Rat) * sx, (j : Rat) * sy) := by
  simp [rectangle, mem_rectangleO]

@[simp] theorem length_rectangleO (R : Rat → Rat) (nx ny : Int) (sx sy x0 y0 : Rat) :
    (rectangleO R nx ny sx sy x0 y0).length = nx.toNat * ny.toNat := by
  simp [rectangleO, List.length_flatMap, Function.comp_def]

@[simp] theorem length_rectangle (R : Rat → Rat) (nx ny : Int) (sx sy : Rat) :
    (rectangle R nx ny sx sy).length = nx.toNat * ny.toNat := by
  simp [rectangle]

theorem abs_natmul_sub {i j : Nat} (h : i < j) {s d : Rat} (hd : d ≤ s) (hs : 0 ≤ s) (c : Rat) :
    d ≤ |(c + (i : Rat) * s) - (c + (j : Rat) * s)| := by
  have h1 : (1 : Rat) ≤ (j : Rat) - (i : Rat) := by
    have : (i : Rat) + 1 ≤ (j : Rat) := by exact_mod_cast h
    linarith
  rw [abs_sub_comm]
  refine le_trans hd (le_trans (le_mul_of_one_le_left hs h1) (le_trans (le_of_eq ?_) (le_abs_self _)))
  ring

theorem sep_rectangleO {nx ny : Int} {sx sy x0 y0 d : Rat} (hd : 0 ≤ d) (hx : d ≤ sx) (hy : d ≤ sy) :
    Sep d (rectangleO id nx ny sx sy x0 y0) := by
  unfold Sep rectangleO
  simp only [id_eq]
  rw [List.pairwise_flatMap]
  constructor
  · intro x _
    rw [List.pairwise_map, List.pairwise_map]
    refine List.Pairwise.imp ?_ List.pairwise_lt_range
    intro i j hij
    exact Or.inr (abs_natmul_sub hij hy (by linarith) y0)
  · rw [List.pairwise_map]
    refine List.Pairwise.imp ?_ List.pairwise_lt_range
    intro i j hij p hp q hq
    simp only [List.mem_map] at hp hq
    obtain ⟨_, _, rfl⟩ := hp
    obtain ⟨_, _, rfl⟩ := hq
    exact Or.inl (abs_natmul_sub hij hx (by linarith) x0)

theorem sep_rectangle {nx ny : Int} {sx sy d : Rat} (hd : 0 ≤ d) (hx : d ≤ sx) (hy : d ≤ sy) :
    Sep d (rectangle id nx ny sx sy) := sep_rectangleO hd hx hy

theorem natCast_le_pred {i : Nat} {n : Int} (h : i < n.toNat) : (i : Rat) ≤ (n : Rat) - 1 := by
  rw [← Int.cast_natCast, ← Int.cast_one, ← Int.cast_sub]
  exact Int.cast_le.mpr (by omega)

theorem inLand_rectangle {nx ny : Int} {sx sy Lx Ly : Rat} (hsx : 0 ≤ sx) (hsy : 0 ≤ sy)
    (hx : ((nx : Rat) - 1) * sx ≤ Lx) (hy : ((ny : Rat) - 1) * sy ≤ Ly) :
    InLand Lx Ly (rectangle id nx ny sx sy) := by
  intro p hp
  obtain ⟨i, hi, j, hj, rfl⟩ := mem_rectangle.mp hp
  exact ⟨mul_nonneg (Nat.cast_nonneg i) hsx, le_trans (mul_le_mul_of_nonneg_right (natCast_le_pred hi) hsx) hx,
    mul_nonneg (Nat.cast_nonneg j) hsy, le_trans (mul_le_mul_of_nonneg_right (natCast_le_pred hj) hsy) hy⟩

/-! ### perimeter shapes as one list of grid indices

  It is duplicate-free: its segments are (`Prod.mk` is injective) and two segments never share an index pair. -/

def emb (sx sy : Rat) (ij : Nat × Nat) : Point := ((ij.1 : Rat) * sx, (ij.2 : Rat) * sy)

theorem abs_natmul_ne {i j : Nat} (h : i ≠ j) {s d : Rat} (hd : d ≤ s) (hs : 0 ≤ s) :
    d ≤ |(i : Rat) * s - (j : Rat) * s| := by
  rcases Nat.lt_or_gt_of_ne h with h | h
  · simpa using abs_natmul_sub h hd hs 0
  · rw [abs_sub_comm]; simpa using abs_natmul_sub h hd hs 0

theorem cast_pred {n : Int} (h : 1 ≤ n) : ((n - 1 : Int) : Rat) = ((n.toNat - 1 : Nat) : Rat) := by
  have : ((n.toNat - 1 : Nat) : Int) = n - 1 := by omega
  rw [← this, Int.cast_natCast]

theorem natCast_toNat' {n : Int} (h : 0 ≤ n) : ((n.toNat : Nat) : Rat) = (n : Rat) := by
  exact_mod_cast Int.toNat_of_nonneg h

theorem perimeter_good {idx : List (Nat × Nat)} {nx ny : Int} {sx sy d W H : Rat} (hd : 0 ≤ d) (hx : d ≤ sx) (hy : d ≤ sy)
    (hnx : 1 ≤ nx) (hny : 1 ≤ ny) (hW : ((nx : Rat) - 1) * sx ≤ W) (hH : ((ny : Rat) - 1) * sy ≤ H)
    (hn : idx.Nodup) (hb : ∀ ij ∈ idx, ij.1 ≤ nx.toNat - 1 ∧ ij.2 ≤ ny.toNat - 1) :
    InLand W H (idx.map (emb sx sy)) ∧ Sep d (idx.map (emb sx sy)) := by
  have hsx : 0 ≤ sx := le_trans hd hx
  have hsy : 0 ≤ sy := le_trans hd hy
  constructor
  · intro p hp
    obtain ⟨ij, hij, rfl⟩ := List.mem_map.mp hp
    have h1 : (ij.1 : Rat) ≤ (nx : Rat) - 1 := by
      rw [← Int.cast_one, ← Int.cast_sub, cast_pred hnx]; exact_mod_cast (hb ij hij).1
    have h2 : (ij.2 : Rat) ≤ (ny : Rat) - 1 := by
      rw [← Int.cast_one, ← Int.cast_sub, cast_pred hny]; exact_mod_cast (hb ij hij).2
    exact ⟨mul_nonneg (Nat.cast_nonneg _) hsx, le_trans (mul_le_mul_of_nonneg_right h1 hsx) hW,
      mul_nonneg (Nat.cast_nonneg _) hsy, le_trans (mul_le_mul_of_nonneg_right h2 hsy) hH⟩
  · refine List.pairwise_map.mpr (List.Pairwise.imp ?_ hn)
    intro a b hab
    by_cases h1 : a.1 = b.1
    · exact Or.inr (abs_natmul_ne (fun h2 => hab (Prod.ext h1 h2)) hy hsy)
    · exact Or.inl (abs_natmul_ne h1 hx hsx)

theorem mem_rangeFrom {lo hi : Int} {k : Nat} : k ∈ rangeFrom lo hi ↔ lo ≤ (k : Int) ∧ (k : Int) < hi := by
  simp only [rangeFrom, List.mem_filter, List.mem_range, decide_eq_true_eq]
  omega

theorem nodup_rangeFrom (lo hi : Int) : (rangeFrom lo hi).Nodup :=
  List.Nodup.filter _ List.nodup_range

/-- An L is a lop-U whose right arm is empty. -/
theorem lShape_eq_lopU (R : Rat → Rat) (nx ny : Int) (sx sy : Rat) : lShape R nx ny sx sy = lopU R nx ny sx sy 1 := by
  simp [lShape, lopU, rangeFrom]

/-- Bottom row, left column below `a`, right column below `b`, piece `[lo, hi)` of the top row.  The U and C shapes
    are instances; the open rectangle, whose two columns are interleaved, is one up to order. -/
def idxP (nx ny a b lo hi : Int) : List (Nat × Nat) :=
  (List.range nx.toNat).map (fun i => (i, 0)) ++ (rangeFrom 1 a).map (fun j => (0, j))
    ++ (rangeFrom 1 b).map (fun j => (nx.toNat - 1, j)) ++ (rangeFrom lo hi).map (fun i => (i, ny.toNat - 1))

theorem lopU_eq {nx : Int} (hnx : 1 ≤ nx) (ny1 ny2 : Int) (sx sy : Rat) :
    lopU id nx ny1 sx sy ny2 = (idxP nx ny1 ny1 ny2 1 1).map (emb sx sy) := by
  simp [lopU, idxP, emb, Function.comp_def, cast_pred hnx, rangeFrom]

theorem cShape_eq {nx1 ny : Int} (hnx : 1 ≤ nx1) (hny : 1 ≤ ny) (nx2 : Int) (sx sy : Rat) :
    cShape id nx1 ny sx sy nx2 = (idxP nx1 ny ny ny 1 (nx2 + 1)).map (emb sx sy) := by
  simp only [cShape, idxP, id_eq, cast_pred hnx, cast_pred hny, List.append_assoc, List.map_append, List.map_map,
    Function.comp_def, emb, Nat.cast_zero, zero_mul]

theorem flatMap_pair_perm {α β : Type} (l : List α) (f g : α → β) :
    (l.flatMap fun x => [f x, g x]).Perm (l.map f ++ l.map g) := by
  rw [List.map_eq_flatMap, List.map_eq_flatMap]
  exact (List.flatMap_append_perm l (fun x => [f x]) (fun x => [g x])).symm

theorem openRectangle_perm {nx ny : Int} (hnx : 2 < nx) (hny : 2 < ny) (sx sy : Rat) :
    (openRectangle id nx ny sx sy).Perm ((idxP nx ny (ny - 1) (ny - 1) 0 nx).map (emb sx sy)) := by
  have e : rangeFrom 0 nx = List.range nx.toNat := List.filter_eq_self.mpr (by simp)
  rw [openRectangle, if_pos ⟨hnx, hny⟩, idxP, e]
  simpa only [id_eq, cast_pred (show 1 ≤ nx by omega), cast_pred (show 1 ≤ ny by omega), List.append_assoc,
    List.map_append, List.map_map, Function.comp_def, emb, Nat.cast_zero, zero_mul] using
    ((flatMap_pair_perm (rangeFrom 1 (ny - 1)) (fun j => emb sx sy (0, j)) (fun j => emb sx sy (nx.toNat - 1, j))).append_right
      _).append_left _

/-- `hc`: the top piece misses both columns (below it, or beside it). -/
theorem nodup_idxP {nx ny a b lo hi : Int} (hnx : 2 ≤ nx) (hny : 2 ≤ ny)
    (hc : (a ≤ ny - 1 ∧ b ≤ ny - 1) ∨ (1 ≤ lo ∧ hi ≤ nx - 1)) : (idxP nx ny a b lo hi).Nodup := by
  simp only [idxP, List.nodup_append, List.mem_append, List.mem_map, List.mem_range, mem_rangeFrom, ne_eq,
    forall_exists_index, and_imp, List.nodup_map_iff (Prod.mk_left_injective _),
    List.nodup_map_iff (Prod.mk_right_injective _), List.nodup_range, nodup_rangeFrom, true_and]
  refine ⟨⟨?_, ?_⟩, ?_⟩
  · intro a i _ rfl b j _ _ rfl
    simp only [Prod.mk.injEq]; omega
  · rintro a (⟨i, _, rfl⟩ | ⟨i, _, _, rfl⟩) b j _ _ rfl <;> simp only [Prod.mk.injEq] <;> omega
  · rintro a ((⟨i, _, rfl⟩ | ⟨i, _, _, rfl⟩) | ⟨i, _, _, rfl⟩) b j _ _ rfl <;> simp only [Prod.mk.injEq] <;> omega

theorem bound_idxP {nx ny a b lo hi : Int} (ha : a ≤ ny) (hb : b ≤ ny) (hhi : hi ≤ nx) :
    ∀ ij ∈ idxP nx ny a b lo hi, (ij.1 ≤ nx.toNat - 1 ∧ ij.2 ≤ ny.toNat - 1) ∧
      (ij.1 = 0 ∨ ij.1 = nx.toNat - 1 ∨ ij.2 = 0 ∨ ij.2 = ny.toNat - 1) := by
  intro ij h
  simp only [idxP, List.mem_append, List.mem_map, List.mem_range, mem_rangeFrom] at h
  -- bottom row, left column, right column, top row
  rcases h with ((⟨i, hi, rfl⟩ | ⟨j, hj, rfl⟩) | ⟨j, hj, rfl⟩) | ⟨i, hi, rfl⟩
  · exact ⟨by simp only; omega, Or.inr (Or.inr (Or.inl rfl))⟩
  · exact ⟨by simp only; omega, Or.inl rfl⟩
  · exact ⟨by simp only; omega, Or.inr (Or.inl rfl)⟩
  · exact ⟨by simp only; omega, Or.inr (Or.inr (Or.inr rfl))⟩

/-! ### zoned rectangle: a frame and a grid strictly inside it -/

theorem zonedRectangle_eq_ok {R : Rat → Rat} {nx ny nix nit : Int} {sx sy : Rat} {z : Field} :
    zonedRectangle R nx ny sx sy nix nit = .ok z ↔
      nix ≤ nx - 2 ∧ nit ≤ ny - 2 ∧ nix + 1 ≠ 0 ∧ nit + 1 ≠ 0 ∧
      z = openRectangle R nx ny sx sy ++
        rectangleO R nix nit (R (R (((nx - 1 : Int) : Rat) * sx) / ((nix + 1 : Int) : Rat)))
          (R (R (((ny - 1 : Int) : Rat) * sy) / ((nit + 1 : Int) : Rat)))
          (R (R (((nx - 1 : Int) : Rat) * sx) / ((nix + 1 : Int) : Rat)))
          (R (R (((ny - 1 : Int) : Rat) * sy) / ((nit + 1 : Int) : Rat))) := by
  unfold zonedRectangle
  split_ifs with c1 c2 c3
  · exact ⟨nofun, fun h => by omega⟩
  · exact ⟨nofun, fun h => by omega⟩
  · exact ⟨nofun, fun h => by omega⟩
  · exact ⟨fun h => ⟨by omega, by omega, by omega, by omega, (Except.ok.inj h).symm⟩, fun ⟨_, _, _, _, hz⟩ => by rw [hz]⟩

/-- the `i`-th of `n` points spaced `b` from `b` on, when `n + 1` steps span `W`: at least `b` from both ends -/
theorem inner_coord {b W : Rat} {n : Int} {i : Nat} (hb : 0 ≤ b) (hW : b * ((n : Rat) + 1) = W) (hi : i < n.toNat) :
    b ≤ b + (i : Rat) * b ∧ b + (i : Rat) * b ≤ W - b := by
  have hi' : (i : Rat) + 1 ≤ (n : Rat) := le_sub_iff_add_le.mp (natCast_le_pred hi)
  refine ⟨le_add_of_nonneg_right (mul_nonneg (Nat.cast_nonneg i) hb), ?_⟩
  have := mul_le_mul_of_nonneg_left hi' hb
  rw [← hW]; linarith

theorem SepP.frame_interior {d W H : Rat} {p q : Point} (hp : p.1 = 0 ∨ p.1 = W ∨ p.2 = 0 ∨ p.2 = H)
    (hq : d ≤ q.1 ∧ q.1 ≤ W - d ∧ d ≤ q.2 ∧ q.2 ≤ H - d) : SepP d p q := by
  obtain ⟨a, b, c, e⟩ := hq
  rcases hp with h | h | h | h
  · exact Or.inl (by rw [h, abs_sub_comm]; exact le_trans (by linarith) (le_abs_self _))
  · exact Or.inl (by rw [h]; exact le_trans (by linarith) (le_abs_self _))
  · exact Or.inr (by rw [h, abs_sub_comm]; exact le_trans (by linarith) (le_abs_self _))
  · exact Or.inr (by rw [h]; exact le_trans (by linarith) (le_abs_self _))

theorem le_innerSpacing {s : Rat} {n m : Int} (hs : 0 ≤ s) (h0 : 0 ≤ m) (hm : m ≤ n - 2) :
    s ≤ ((n - 1 : Int) : Rat) * s / ((m + 1 : Int) : Rat) := by
  have h1 : (0 : Rat) < ((m + 1 : Int) : Rat) := Int.cast_pos.mpr (by omega)
  have h2 : ((m + 1 : Int) : Rat) ≤ ((n - 1 : Int) : Rat) := Int.cast_le.mpr (by omega)
  rw [le_div_iff₀ h1, mul_comm]
  exact mul_le_mul_of_nonneg_right h2 hs

/-- a field on the frame of a box plus an inner grid whose `n + 1` (`m + 1`) steps span the box -/
theorem frame_grid_good {frame : Field} {n m : Int} {b c d W' H' W H : Rat} (hd : 0 ≤ d) (hb : d ≤ b) (hc : d ≤ c)
    (hW : b * ((n : Rat) + 1) = W') (hH : c * ((m : Rat) + 1) = H') (hWW : W' ≤ W) (hHH : H' ≤ H)
    (hin : InLand W H frame) (hsep : Sep d frame)
    (hfr : ∀ p ∈ frame, p.1 = 0 ∨ p.1 = W' ∨ p.2 = 0 ∨ p.2 = H') :
    InLand W H (frame ++ rectangleO id n m b c b c) ∧ Sep d (frame ++ rectangleO id n m b c b c) := by
  have hint : ∀ q ∈ rectangleO id n m b c b c, d ≤ q.1 ∧ q.1 ≤ W' - d ∧ d ≤ q.2 ∧ q.2 ≤ H' - d := by
    intro q hq
    obtain ⟨i, hi, j, hj, rfl⟩ := mem_rectangleO.mp hq
    obtain ⟨a1, a2⟩ := inner_coord (le_trans hd hb) hW hi
    obtain ⟨a3, a4⟩ := inner_coord (le_trans hd hc) hH hj
    exact ⟨hb.trans a1, a2.trans (sub_le_sub_left hb W'), hc.trans a3, a4.trans (sub_le_sub_left hc H')⟩
  constructor
  · intro p hp
    rcases List.mem_append.mp hp with hp | hp
    · exact hin p hp
    · obtain ⟨a1, a2, a3, a4⟩ := hint p hp
      exact ⟨by linarith, by linarith, by linarith, by linarith⟩
  · exact List.pairwise_append.mpr
      ⟨hsep, sep_rectangleO hd hb hc, fun p hp q hq => SepP.frame_interior (hfr p hp) (hint q hq)⟩

theorem zonedRectangle_good {nx ny nix nit : Int} {sx sy d W H : Rat} {z : Field}
    (hd : 0 ≤ d) (hx : d ≤ sx) (hy : d ≤ sy) (h1 : 1 ≤ nix) (h2 : 1 ≤ nit)
    (hW : ((nx : Rat) - 1) * sx ≤ W) (hH : ((ny : Rat) - 1) * sy ≤ H)
    (h : zonedRectangle id nx ny sx sy nix nit = .ok z) : InLand W H z ∧ Sep d z := by
  obtain ⟨c1, c2, -, -, rfl⟩ := zonedRectangle_eq_ok.mp h
  have hsx : 0 ≤ sx := le_trans hd hx
  have hsy : 0 ≤ sy := le_trans hd hy
  have hnx : 1 ≤ nx := by omega
  have hny : 1 ≤ ny := by omega
  have cancel : ∀ (a : Rat) (k : Int), 1 ≤ k → a / ((k + 1 : Int) : Rat) * ((k : Rat) + 1) = a := fun a k hk => by
    rw [← Int.cast_one (R := Rat), ← Int.cast_add]
    exact div_mul_cancel₀ a (Int.cast_ne_zero.mpr (by omega))
  have perm := openRectangle_perm (show 2 < nx by omega) (show 2 < ny by omega) sx sy
  have bd := bound_idxP (nx := nx) (lo := 0) (show ny - 1 ≤ ny by omega) (show ny - 1 ≤ ny by omega) (le_refl nx)
  obtain ⟨pl, ps⟩ := perimeter_good hd hx hy hnx hny hW hH (nodup_idxP (by omega) (by omega) (Or.inl ⟨le_refl _, le_refl _⟩))
    (fun ij hij => (bd ij hij).1) (sx := sx) (sy := sy)
  refine frame_grid_good hd (le_trans hx (le_innerSpacing hsx (by omega) c1))
    (le_trans hy (le_innerSpacing hsy (by omega) c2)) (cancel _ _ h1) (cancel _ _ h2)
    (by push_cast; exact hW) (by push_cast; exact hH) (fun p hp => pl p (perm.mem_iff.mp hp))
    ((perm.pairwise_iff SepP.symm).mpr ps) ?_
  intro p hp
  obtain ⟨ij, hij, rfl⟩ := List.mem_map.mp (perm.mem_iff.mp hp)
  rw [cast_pred hnx, cast_pred hny]
  rcases (bd ij hij).2 with h | h | h | h <;> simp only [emb, h, id_eq, Nat.cast_zero, zero_mul, true_or, or_true]

/-! ### binary64 rounding: relative error of `fl64` -/

theorem pow2_eq_zpow (e : Int) : pow2 e = (2 : Rat) ^ e := by
  unfold pow2
  split
  · rename_i h
    have : e = ((e.toNat : Nat) : Int) := (Int.toNat_of_nonneg h).symm
    conv_rhs => rw [this]
    rw [zpow_natCast]; push_cast; rfl
  · rename_i h
    have : e = -((((-e).toNat : Nat)) : Int) := by omega
    conv_rhs => rw [this]
    rw [zpow_neg, zpow_natCast]; simp

theorem pow2_pos (e : Int) : 0 < pow2 e := by rw [pow2_eq_zpow]; positivity

theorem pow2_add (a b : Int) : pow2 (a + b) = pow2 a * pow2 b := by
  simp only [pow2_eq_zpow]; exact zpow_add₀ (by norm_num) a b

theorem roundHalfEven_err (q : Rat) : |((roundHalfEven q : Int) : Rat) - q| ≤ 1 / 2 := by
  have lo : q - q.floor ≤ 1 / 2 → |((q.floor : Int) : Rat) - q| ≤ 1 / 2 := fun h => by
    rwa [abs_sub_comm, abs_of_nonneg (sub_nonneg.mpr (Rat.floor_le q))]
  have hi : 1 / 2 ≤ q - q.floor → |((q.floor + 1 : Int) : Rat) - q| ≤ 1 / 2 := fun h => by
    rw [abs_of_pos (sub_pos.mpr (Rat.lt_floor_add_one q))]; push_cast; linarith
  unfold roundHalfEven
  simp only []
  -- with `r = q - ⌊q⌋ ∈ [0, 1)`: `⌊q⌋` is returned for `r < 1/2` and for the tie with `⌊q⌋` even, else `⌊q⌋ + 1`
  split_ifs with hlt hgt hev
  · exact lo hlt.le
  · exact hi hgt.le
  · exact lo (not_lt.mp hgt)
  · exact hi (not_lt.mp hlt)

theorem normExp_spec {a : Rat} (ha : 0 < a) : (4503599627370496 : Rat) ≤ a / pow2 (normExp a) := by
  have hnum : 0 < a.num := Rat.num_pos.mpr ha
  have hlog := Nat.log2_self_le (n := a.num.natAbs) (by omega)
  set ln := Nat.log2 a.num.natAbs
  set ld := Nat.log2 a.den
  set e0 : Int := (ln : Int) - (ld : Int) - 52 with he0
  -- `2^ln ≤ num` and `den ≤ 2^(ld+1)`, so `2^51 · 2^e0 = 2^ln / 2^(ld+1) ≤ num / den`
  have h1 : (2 : Rat) ^ ln ≤ (a.num : Rat) := by
    have : ((2 ^ ln : Nat) : Int) ≤ a.num := by omega
    exact_mod_cast this
  have h2 : (a.den : Rat) ≤ (2 : Rat) ^ (ld + 1) := by exact_mod_cast (Nat.lt_log2_self (n := a.den)).le
  have hd : (0 : Rat) < a.den := by exact_mod_cast a.den_pos
  have hm0 : (2251799813685248 : Rat) ≤ a / pow2 e0 := by
    have e : (2251799813685248 : Rat) * pow2 e0 = 2 ^ ln / 2 ^ (ld + 1) := by
      rw [pow2_eq_zpow, he0, show (2251799813685248 : Rat) = 2 ^ (51 : Int) by norm_num, ← zpow_natCast, ← zpow_natCast,
        ← zpow_add₀ two_ne_zero, ← zpow_sub₀ two_ne_zero]
      exact congrArg _ (by omega)
    rw [le_div_iff₀ (pow2_pos _), e, ← Rat.num_div_den a, div_le_div_iff₀ (by positivity) hd]
    exact mul_le_mul h1 h2 hd.le (le_trans (by positivity) h1)
  have two : pow2 1 = 2 := by rw [pow2_eq_zpow]; norm_num
  have hne : normExp a = if a / pow2 e0 < 4503599627370496 then e0 - 1
      else if 9007199254740992 ≤ a / pow2 e0 then e0 + 1 else e0 := rfl
  rw [hne]
  split_ifs with c1 c2
  · rw [sub_eq_add_neg, pow2_add, pow2_eq_zpow (-1), ← div_div, zpow_neg_one, div_inv_eq_mul]
    exact le_trans (by norm_num) (mul_le_mul_of_nonneg_right hm0 zero_le_two)
  · rw [pow2_add, two, ← div_div]; exact le_trans (by norm_num) (div_le_div_of_nonneg_right c2 zero_le_two)
  · exact not_lt.mp c1

/-- Unconditional: the model's `fl64` has no exponent range (it rounds to 53 significant bits also where binary64
    would overflow or go subnormal). -/
theorem fl64_relErr (q : Rat) : |fl64 q - q| ≤ |q| / 9007199254740992 := by
  unfold fl64
  split
  · rename_i h; subst h; simp
  rename_i hq
  have key : ∀ a : Rat, 0 < a →
      |((roundHalfEven (a / pow2 (normExp a)) : Int) : Rat) * pow2 (normExp a) - a| ≤ a / 9007199254740992 := by
    intro a ha
    have hp := pow2_pos (normExp a)
    have h2 := (le_div_iff₀ hp).mp (normExp_spec ha)
    have hr := roundHalfEven_err (a / pow2 (normExp a))
    generalize pow2 (normExp a) = m at *
    generalize roundHalfEven (a / m) = r at *
    rw [show (r : Rat) * m - a = ((r : Rat) - a / m) * m by rw [sub_mul, div_mul_cancel₀ a hp.ne'], abs_mul, abs_of_pos hp]
    exact (mul_le_mul_of_nonneg_right hr hp.le).trans (by linarith only [h2])
  by_cases hneg : q < 0
  · simp only [hneg, if_true]
    rw [abs_of_neg hneg, show ∀ v : Rat, -v - q = -(v - -q) from fun v => by ring, abs_neg]
    exact key (-q) (by linarith)
  · simp only [hneg, if_false]
    have hpos : 0 < q := lt_of_le_of_ne (not_lt.mp hneg) (Ne.symm hq)
    rw [abs_of_pos hpos]
    exact key q hpos

/-! ### closeness of the rounded and the exact instance -/

/-- `R` rounds with relative error at most `u`. -/
def RelErr (u : Rat) (R : Rat → Rat) : Prop := ∀ q, |R q - q| ≤ u * |q|

theorem fl64_RelErr : RelErr (1 / 9007199254740992) fl64 := fun q => by
  rw [one_div, mul_comm, ← div_eq_mul_inv]
  exact fl64_relErr q

theorem id_RelErr {u : Rat} (hu : 0 ≤ u) : RelErr u id := by
  intro q; simp; exact mul_nonneg hu (abs_nonneg q)

/-- `x` approximates `y` with relative error at most `ε`. -/
def Near (ε x y : Rat) : Prop := |x - y| ≤ ε * |y|

theorem Near.refl {ε : Rat} (hε : 0 ≤ ε) (y : Rat) : Near ε y y := by
  unfold Near; simp; exact mul_nonneg hε (abs_nonneg y)

theorem Near.mono {ε ε' x y : Rat} (h : Near ε x y) (hle : ε ≤ ε') : Near ε' x y :=
  le_trans h (mul_le_mul_of_nonneg_right hle (abs_nonneg y))

/-- one more rounding: `ε ↦ ε + u + ε u` -/
def bump (u ε : Rat) : Rat := ε + u + ε * u

theorem Near.round {u ε x y : Rat} {R : Rat → Rat} (hR : RelErr u R) (hu : 0 ≤ u) (h : Near ε x y) :
    Near (bump u ε) (R x) y := by
  have h1 := hR x
  unfold Near at *
  have h2 : |x| ≤ (1 + ε) * |y| := by linarith [abs_sub_abs_le_abs_sub x y]
  have := abs_sub_le (R x) x y
  have h3 : u * |x| ≤ u * ((1 + ε) * |y|) := mul_le_mul_of_nonneg_left h2 hu
  unfold bump
  linarith

theorem Near.const_mul {ε x y : Rat} (c : Rat) (h : Near ε x y) : Near ε (c * x) (c * y) := by
  unfold Near at *
  rw [← mul_sub, abs_mul, abs_mul]
  nlinarith [abs_nonneg c]

theorem Near.zero_add {ε x y : Rat} (h : Near ε x y) : Near ε (0 + x) (0 + y) := by simpa using h

theorem Near.div_left {ε x y : Rat} (c : Rat) (hy : 0 < y) (hε : 0 ≤ ε) (hε1 : ε ≤ 1 / 2) (h : Near ε x y) :
    Near (2 * ε) (c / x) (c / y) := by
  unfold Near at *
  rw [abs_of_pos hy] at h
  have hx2 : y ≤ 2 * x := by linarith only [(_root_.abs_le.mp h).1, mul_le_mul_of_nonneg_right hε1 hy.le]
  have hxpos : 0 < x := by linarith only [hx2, hy]
  have e : c / x - c / y = c / y * ((y - x) / x) := by field_simp
  rw [e, abs_mul, mul_comm]
  refine mul_le_mul_of_nonneg_right ?_ (abs_nonneg _)
  rw [abs_div, abs_of_pos hxpos, div_le_iff₀ hxpos, abs_sub_comm]
  linarith only [h, mul_le_mul_of_nonneg_left hx2 hε]

/-- pointwise closeness of boreholes -/
def NearP (ε : Rat) (p q : Point) : Prop := Near ε p.1 q.1 ∧ Near ε p.2 q.2

theorem forall₂_map_same {α β γ : Type} {P : β → γ → Prop} (f : α → β) (g : α → γ) (l : List α)
    (h : ∀ a ∈ l, P (f a) (g a)) : List.Forall₂ P (l.map f) (l.map g) :=
  List.forall₂_map_left_iff.2 (List.forall₂_map_right_iff.2 (List.forall₂_same.2 h))

/-- two more roundings per coordinate -/
theorem rectangle_near {u ε : Rat} {R : Rat → Rat} (hR : RelErr u R) (hu : 0 ≤ u) (nx ny : Int) {sx sy sx' sy' : Rat}
    (hx : Near ε sx' sx) (hy : Near ε sy' sy) :
    List.Forall₂ (NearP (bump u (bump u ε))) (rectangle R nx ny sx' sy') (rectangle id nx ny sx sy) := by
  unfold rectangle rectangleO
  refine List.rel_flatMap (R := Near (bump u (bump u ε))) (forall₂_map_same _ _ _ ?_) ?_
  · intro i _
    exact ((hx.const_mul (i : Rat)).round hR hu).zero_add.round hR hu
  · intro a b hab
    refine List.rel_map (R := Near (bump u (bump u ε))) (fun y y' hyy => ⟨hab, hyy⟩) (forall₂_map_same _ _ _ ?_)
    intro j _
    exact ((hy.const_mul (j : Rat)).round hR hu).zero_add.round hR hu

theorem forall₂_pairwise {α β : Type} {P : α → β → Prop} {Q : β → β → Prop} {Q' : α → α → Prop}
    {l1 : List α} {l2 : List β} (h : List.Forall₂ P l1 l2) (hq : l2.Pairwise Q)
    (tr : ∀ a a' b b', b ∈ l2 → b' ∈ l2 → P a b → P a' b' → Q b b' → Q' a a') : l1.Pairwise Q' := by
  induction h with
  | nil => exact List.Pairwise.nil
  | @cons a b l1 l2 hab htail ih =>
    rw [List.pairwise_cons] at hq ⊢
    constructor
    · intro a' ha'
      obtain ⟨b', hb', hp⟩ := forall₂_mem_left htail a' ha'
      exact tr a a' b b' (by simp) (by simp [hb']) hab hp (hq.1 b' hb')
    · exact ih hq.2 (fun x x' y y' hy hy' => tr x x' y y' (by simp [hy]) (by simp [hy']))

theorem Near.mem_Icc {δ x y L : Rat} (h : Near δ x y) (hδ0 : 0 ≤ δ) (hδ : δ ≤ 1) (hy : 0 ≤ y) (hyL : y ≤ L) :
    0 ≤ x ∧ x ≤ (1 + δ) * L := by
  unfold Near at h
  rw [abs_of_nonneg hy] at h
  obtain ⟨lo, up⟩ := abs_le.mp h
  exact ⟨by linarith [mul_nonneg (sub_nonneg.2 hδ) hy], by linarith [mul_le_mul_of_nonneg_left hyL hδ0]⟩

theorem Near.sep {δ d x x' y y' L : Rat} (h : Near δ x y) (h' : Near δ x' y') (hδ : 0 ≤ δ)
    (hy : 0 ≤ y) (hyL : y ≤ L) (hy' : 0 ≤ y') (hyL' : y' ≤ L) (hs : d ≤ |y - y'|) : d - 2 * δ * L ≤ |x - x'| := by
  unfold Near at h h'
  rw [abs_of_nonneg hy] at h
  rw [abs_of_nonneg hy'] at h'
  have tri : |y - y'| ≤ |x - x'| + |x - y| + |x' - y'| := by
    have := abs_add_three (x - x') (-(x - y)) (x' - y')
    rwa [abs_neg, show x - x' + -(x - y) + (x' - y') = y - y' by ring] at this
  have := mul_le_mul_of_nonneg_left hyL hδ
  have := mul_le_mul_of_nonneg_left hyL' hδ
  linarith

theorem approx_of_near {δ d Lx Ly : Rat} {fR f : Field} (hδ0 : 0 ≤ δ) (hδ : δ ≤ 1)
    (h : List.Forall₂ (NearP δ) fR f) (hin : InLand Lx Ly f) (hsep : Sep d f) :
    InLand ((1 + δ) * Lx) ((1 + δ) * Ly) fR ∧ Sep (d - 2 * δ * max Lx Ly) fR := by
  constructor
  · intro p hp
    obtain ⟨q, hq, h1, h2⟩ := forall₂_mem_left h p hp
    obtain ⟨a, b, c, e⟩ := hin q hq
    exact ⟨(h1.mem_Icc hδ0 hδ a b).1, (h1.mem_Icc hδ0 hδ a b).2, (h2.mem_Icc hδ0 hδ c e).1, (h2.mem_Icc hδ0 hδ c e).2⟩
  · refine forall₂_pairwise h hsep ?_
    intro p p' q q' hq hq' hp hp' hs
    obtain ⟨a, b, c, e⟩ := hin q hq
    obtain ⟨a', b', c', e'⟩ := hin q' hq'
    have wk : ∀ {L : Rat}, L ≤ max Lx Ly → d - 2 * δ * max Lx Ly ≤ d - 2 * δ * L := fun hL => by
      have := mul_le_mul_of_nonneg_left hL (mul_nonneg (by norm_num : (0 : Rat) ≤ 2) hδ0)
      linarith
    rcases hs with hs | hs
    · exact Or.inl (le_trans (wk (le_max_left _ _)) (hp.1.sep hp'.1 hδ0 a b a' b' hs))
    · exact Or.inr (le_trans (wk (le_max_right _ _)) (hp.2.sep hp'.2 hδ0 c e c' e' hs))

end GHEVerif.Coords
