/- The whole sequence of `process_month_loads`: the replication loop, the months' blocks one after
   the other, their total energy (C06) and the time axis (C08). -/
import GHEVerif.Lemmas.HybridMonth
import Mathlib.Data.List.GetD

namespace GHEVerif.Hybrid
open GHEVerif

theorem monthIndex_eq (i : Int) : monthIndex i = if i % 12 = 0 then 12 else i % 12 := by
  simp only [monthIndex, show Gen.monthsInYear = 12 from rfl, Int.fmod_eq_emod_of_nonneg i (by norm_num : (0 : Int) ≤ 12)]

theorem monthIndex_range (i : Int) : 1 ≤ monthIndex i ∧ monthIndex i ≤ 12 := by
  rw [monthIndex_eq]; split <;> omega

theorem monthIndex_small (i : Int) (h1 : 1 ≤ i) (h12 : i ≤ 12) : monthIndex i = i := by
  rw [monthIndex_eq]; split <;> omega

theorem monthIndex_add12 (i : Int) : monthIndex (i + 12) = monthIndex i := by
  rw [monthIndex_eq, monthIndex_eq, Int.add_emod_right]

/-- The record month `i` uses: year-1 month `monthIndex i` (replication). -/
def recAt (base : List MonthRec) (i : Int) : MonthRec := base.getD (monthIndex i).toNat default

theorem recAt_cons_replicate (d r : MonthRec) (i : Int) : recAt (d :: List.replicate 12 r) i = r := by
  obtain ⟨a, b⟩ := monthIndex_range i
  obtain ⟨k, hk⟩ := Int.eq_ofNat_of_zero_le (by omega : 0 ≤ monthIndex i - 1)
  have e : (monthIndex i).toNat = k + 1 := by omega
  rw [recAt, e, List.getD_cons_succ, List.getD_eq_getElem _ _ (by rw [List.length_replicate]; omega),
    List.getElem_replicate]

theorem recAt_add12 (base : List MonthRec) (i : Int) : recAt base (i + 12) = recAt base i := by
  unfold recAt; rw [monthIndex_add12]

/-- The monthly arrays after the replication loop has appended `n` months. -/
def extList (base : List MonthRec) (n : Nat) : List MonthRec :=
  base ++ (List.range n).map (fun (k : Nat) => recAt base (13 + (k : Int)))

theorem extList_length (base : List MonthRec) (n : Nat) : (extList base n).length = base.length + n := by
  simp [extList]

theorem extList_succ (base : List MonthRec) (n : Nat) :
    extList base (n + 1) = extList base n ++ [recAt base (13 + (n : Int))] := by
  simp [extList, List.range_succ]

theorem extList_index (base : List MonthRec) (hlen : base.length = 13) (n : Nat) (i : Int)
    (h1 : 1 ≤ i) (h2 : i < 13 + n) : pyIndex (extList base n) i = .ok (recAt base i) := by
  rw [pyIndex_of_nonneg _ i (by omega) (by rw [extList_length, hlen]; push_cast; omega)]
  congr 1
  unfold extList
  by_cases h : i ≤ 12
  · rw [List.getD_append _ _ _ _ (by omega), recAt, monthIndex_small i h1 h]
  · rw [List.getD_append_right _ _ _ _ (by omega), List.getD_eq_getElem _ _ (by simp; omega)]
    simp only [List.getElem_map, List.getElem_range]
    congr 1; omega

/-- `start ≤ 13`: the loop appends one entry per visited month `> 12`, so entry `i` is month `i` only if it
    starts by month 13. -/
theorem replicate_eq (base : List MonthRec) (hlen : base.length = 13) (start : Int) (hs' : start ≤ 13)
    (e : Int) (he : start - 1 ≤ e) :
    replicate base start e = .ok (extList base (e - 12).toNat) := by
  induction e, he using Int.leInduction with
  | base =>
    unfold replicate
    rw [Int.sub_add_cancel, pyRange_eq_nil.mpr (le_refl _)]
    have : (start - 1 - 12).toNat = 0 := by omega
    rw [this]; simp [extList]; rfl
  | succ e he ih =>
    unfold replicate at ih ⊢
    rw [pyRange_succ start (e + 1) (by omega), List.foldlM_append, ih]
    show List.foldlM replicateStep (extList base (e - 12).toNat) [e + 1] = _
    simp only [List.foldlM_cons, List.foldlM_nil, bind_pure, replicateStep, show Gen.monthsInYear = 12 from rfl]
    by_cases h : e + 1 > 12
    · obtain ⟨m1, m2⟩ := monthIndex_range (e + 1)
      rw [if_pos h, extList_index base hlen _ _ m1 (by omega), show (e + 1 - 12).toNat = (e - 12).toNat + 1 by omega,
        extList_succ, show (13 : Int) + ((e - 12).toNat : Nat) = e + 1 by omega]
      simp only [recAt, monthIndex_small _ m1 m2]
      rfl
    · rw [if_neg h, show (e + 1 - 12).toNat = (e - 12).toNat by omega]
      rfl

/-- The entries month `i` contributes (empty when the month raises). -/
def segsOf (y : Int) (base : List MonthRec) (start end_ i : Int) : List (Rat × Rat) :=
  match emitMonth y (recAt base i) (ipfFlag start end_ i) i with
  | .ok s => s
  | .error _ => []

theorem emitMonth_segsOf {y : Int} {base : List MonthRec} {start end_ i : Int} {s : List (Rat × Rat)}
    (h : emitMonth y (recAt base i) (ipfFlag start end_ i) i = .ok s) : segsOf y base start end_ i = s := by
  unfold segsOf; rw [h]

theorem foldlM_blocks (f : List (Rat × Rat) → Int → Py (List (Rat × Rat))) (F : Int → List (Rat × Rat))
    (l : List Int) (h : ∀ acc, ∀ i ∈ l, f acc i = .ok (acc ++ F i)) (init : List (Rat × Rat)) :
    List.foldlM f init l = .ok (init ++ (l.map F).flatten) := by
  induction l generalizing init with
  | nil => simp; rfl
  | cons x xs ih =>
    rw [List.foldlM_cons, h init x (by simp)]
    show List.foldlM f (init ++ F x) xs = _
    rw [ih (fun acc i hi => h acc i (by simp [hi]))]
    simp [List.append_assoc]

theorem process_eq (y : Int) (base : List MonthRec) (hlen : base.length = 13) (start end_ : Int)
    (hs : 1 ≤ start) (hs' : start ≤ 13) (he : start - 1 ≤ end_)
    (hrun : ∀ i, start ≤ i → i ≤ end_ → MonthRuns y (recAt base i) (ipfFlag start end_ i) i) :
    processMonthLoads y base start end_ =
      .ok ([((0 : Rat), (0 : Rat)), ((0 : Rat), ((lmh y (start - 1) : Int) : Rat))] ++
        ((pyRange start (end_ + 1)).map (segsOf y base start end_)).flatten) := by
  unfold processMonthLoads
  rw [firstMonthHour_eq y start hs, replicate_eq base hlen start hs' end_ he]
  simp only [bind, Except.bind]
  rw [foldlM_blocks _ (segsOf y base start end_), add_sub_cancel_left]
  intro acc i hi
  have hi := mem_pyRange.mp hi
  obtain ⟨s, hs⟩ := emitMonth_last y _ _ i (by omega) (hrun i hi.1 (by omega))
  rw [extList_index base hlen _ i (by omega) (by omega), emitMonth_segsOf hs]
  simp only [hs]
  rfl

/-- Block `i` runs from `L (i-1)` to `L i`: last hour, integral and order of the whole in one induction. -/
theorem blocks_fold (L : Int → Rat) (B : Int → List (Rat × Rat)) (start e : Int) (he : start - 1 ≤ e)
    (h : ∀ i, start ≤ i → i ≤ e → lastHour (L (i - 1)) (B i) = L i) :
    lastHour (L (start - 1)) ((pyRange start (e + 1)).map B).flatten = L e ∧
    integral (L (start - 1)) ((pyRange start (e + 1)).map B).flatten =
      ((pyRange start (e + 1)).map (fun i => integral (L (i - 1)) (B i))).sum ∧
    ((∀ i, start ≤ i → i ≤ e → Incr (L (i - 1)) ((B i).map Prod.snd)) →
      Incr (L (start - 1)) ((((pyRange start (e + 1)).map B).flatten).map Prod.snd)) := by
  induction e, he using Int.leInduction with
  | base =>
    rw [Int.sub_add_cancel, pyRange_eq_nil.mpr (le_refl _)]
    simp [integral, lastHour, Incr]
  | succ e he ih =>
    obtain ⟨i1, i2, i3⟩ := ih (fun i a b => h i a (by omega))
    have j := h (e + 1) (by omega) (le_refl _)
    rw [pyRange_succ start (e + 1) (by omega)]
    simp only [List.map_append, List.flatten_append, List.map_cons, List.map_nil, List.flatten_cons,
      List.flatten_nil, List.append_nil, List.sum_append, List.sum_cons, List.sum_nil, add_zero]
    rw [integral_append, lastHour_append, i1, i2, Incr_append, lastOf_hours, i1]
    rw [Int.add_sub_cancel] at j ⊢
    exact ⟨j, rfl, fun hI => ⟨i3 (fun i a b => hI i a (by omega)), by simpa using hI (e + 1) (by omega) (le_refl _)⟩⟩

/-- Needs only that no month raises. -/
theorem axis_core (y : Int) (base : List MonthRec) (start end_ : Int)
    (hs : 1 ≤ start) (he : start - 1 ≤ end_)
    (hrun : ∀ i, start ≤ i → i ≤ end_ → MonthRuns y (recAt base i) (ipfFlag start end_ i) i) :
    (∀ i, start ≤ i → i ≤ end_ → ∃ pre, segsOf y base start end_ i =
        pre ++ [(rateOf y (recAt base i) (ipfFlag start end_ i) i, ((lmh y i : Int) : Rat))]) ∧
    lastHour 0 ([((0 : Rat), (0 : Rat)), ((0 : Rat), ((lmh y (start - 1) : Int) : Rat))] ++
        ((pyRange start (end_ + 1)).map (segsOf y base start end_)).flatten) = ((lmh y end_ : Int) : Rat) := by
  have hlast : ∀ i, start ≤ i → i ≤ end_ → ∃ pre, segsOf y base start end_ i =
        pre ++ [(rateOf y (recAt base i) (ipfFlag start end_ i) i, ((lmh y i : Int) : Rat))] := by
    intro i a b
    obtain ⟨pre, e⟩ := emitMonth_last y _ _ i (by omega) (hrun i a b)
    exact ⟨pre, emitMonth_segsOf e⟩
  refine ⟨hlast, ?_⟩
  rw [lastHour_append]
  refine (blocks_fold (fun i => ((lmh y i : Int) : Rat)) (segsOf y base start end_) start end_ he ?_).1
  intro i a b
  obtain ⟨pre, hp⟩ := hlast i a b
  rw [hp, lastHour_snoc]

theorem horizon_core (y : Int) (base : List MonthRec) (hlen : base.length = 13) (start end_ : Int)
    (hs : 1 ≤ start) (hs' : start ≤ 13) (he : start - 1 ≤ end_)
    (hok : ∀ i, start ≤ i → i ≤ end_ → MonthOK y (recAt base i) (ipfFlag start end_ i) i) :
    ∃ seq, processMonthLoads y base start end_ = .ok seq ∧
      integral 0 seq = ((pyRange start (end_ + 1)).map (fun i =>
        (recAt base i).cl - (recAt base i).hl)).sum := by
  have hm : ∀ i, start ≤ i → i ≤ end_ →
      integral (lmh y (i - 1) : Int) (segsOf y base start end_ i) = (recAt base i).cl - (recAt base i).hl ∧
      lastHour (lmh y (i - 1) : Int) (segsOf y base start end_ i) = (lmh y i : Int) := by
    intro i a b
    obtain ⟨segs, e1, e23⟩ := month_energy_ok y _ _ i (by omega) (hok i a b)
    rwa [emitMonth_segsOf e1]
  refine ⟨_, process_eq y base hlen start end_ hs hs' he (fun i a b => (hok i a b).room), ?_⟩
  rw [integral_append]
  simp only [integral, lastHour, sub_self, mul_zero, zero_mul, zero_add, add_zero]
  rw [(blocks_fold (fun i => ((lmh y i : Int) : Rat)) _ start end_ he (fun i a b => (hm i a b).2)).2.1]
  congr 1
  apply List.map_congr_left
  intro i hi
  have hi := mem_pyRange.mp hi
  exact (hm i hi.1 (by omega)).1

theorem sum_years (g : Int → Rat) (hg : ∀ i, g (i + 12) = g i) (n : Nat) :
    ((pyRange 1 (12 * (n : Int) + 1)).map g).sum = (n : Rat) * ((pyRange 1 13).map g).sum := by
  have hper : ∀ k : Nat, ∀ i, g (i + 12 * (k : Int)) = g i := by
    intro k
    induction k with
    | zero => simp
    | succ k ih => intro i; rw [show i + 12 * ((k + 1 : Nat) : Int) = i + 12 * (k : Int) + 12 by push_cast; ring, hg, ih]
  induction n with
  | zero => simp [pyRange_eq_nil.mpr]
  | succ n ih =>
    rw [pyRange_append (mid := 12 * (n : Int) + 1) (by omega) (by push_cast; omega),
      List.map_append, List.sum_append, ih,
      show (12 * ((n + 1 : Nat) : Int) + 1) = 13 + 12 * (n : Int) by push_cast; ring,
      Int.add_comm (12 * (n : Int)) 1, pyRange_shift, List.map_map]
    simp only [Function.comp_def, hper]
    push_cast; ring

end GHEVerif.Hybrid
