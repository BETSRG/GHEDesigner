/- What the combined g-function computes: the join of `combine_sts_lts` on increasing inputs
   (`joinLists_sorted`), interpolation over height at a stored height (`evalTable_at_node`), and why the
   cached table cannot matter (`gFunctionInterpolation_cases`). -/
import GHEVerif.Model.GJoin
import GHEVerif.Lemmas.Py
import Mathlib.Data.List.Nodup
import Mathlib.Data.List.Pairwise
import Mathlib.Tactic.Linarith
import Mathlib.Tactic.Ring
import Mathlib.Tactic.FieldSimp

namespace GHEVerif.GJoin
open GHEVerif

/-! ### `combine_sts_lts` -/

theorem pyMaxL_ok {l : List Rat} {mx : Rat} (h : pyMaxL l = .ok mx) : mx ∈ l ∧ ∀ y ∈ l, y ≤ mx := by
  cases l with
  | nil => cases h
  | cons a xs => cases h; exact ratMax_eq_max ▸ foldl_max_spec xs a

theorem pyMinL_ok {l : List Rat} {mn : Rat} (h : pyMinL l = .ok mn) : mn ∈ l ∧ ∀ y ∈ l, mn ≤ y := by
  cases l with
  | nil => cases h
  | cons a xs => cases h; exact ratMin_eq_min ▸ foldl_min_spec xs a

theorem pyMaxL_of_ne_nil (l : List Rat) (hne : l ≠ []) :
    ∃ mx, pyMaxL l = .ok mx ∧ mx ∈ l ∧ ∀ y ∈ l, y ≤ mx := by
  cases l with
  | nil => exact absurd rfl hne
  | cons a xs => exact ⟨_, rfl, pyMaxL_ok rfl⟩

theorem pyMinL_sorted (m : Rat) (rest : List Rat) (hs : (m :: rest).Pairwise (· < ·)) :
    pyMinL (m :: rest) = .ok m := by
  obtain ⟨hmem, hle⟩ := pyMinL_ok (rfl : pyMinL (m :: rest) = .ok _)
  rcases List.mem_cons.mp hmem with e | e
  · exact congrArg _ e
  · exact absurd (hle m (by simp)) (not_le.mpr (List.rel_of_pairwise_cons hs e))

theorem scanOp_eval (v m : Rat) : Gen.GJoinConsts.scanOp.eval v m = decide (v ≤ m) := rfl
theorem branchOp_eval (a b : Rat) : Gen.GJoinConsts.branchOp.eval a b = decide (a < b) := rfl

/-- `while value <= m`: the index of the first abscissa above `m`; `IndexError` if there is none. -/
theorem scanStop_eq (m : Rat) (l : List Rat) (k : Nat) :
    scanStop m l k =
      if l.findIdx (fun x => decide (m < x)) < l.length then .ok (k + l.findIdx (fun x => decide (m < x)))
      else .error .indexError := by
  induction l generalizing k with
  | nil => rfl
  | cons a l ih =>
    unfold scanStop
    rw [scanOp_eval, List.findIdx_cons, ih]
    by_cases ha : a ≤ m
    · simp [ha, not_lt.mpr ha, Nat.add_assoc, Nat.add_comm 1]
    · simp [ha, not_le.mp ha]

theorem joinLists_eq {ltsT stsT : List Rat} {mx mn : Rat} (hmx : pyMaxL stsT = .ok mx) (hmn : pyMinL ltsT = .ok mn)
    (ltsG stsG : List Rat) :
    joinLists ltsT ltsG stsT stsG =
      if mx < mn then .ok (stsT ++ ltsT, stsG ++ ltsG)
      else (scanStop mn stsT 0).map (fun i => (stsT.take i ++ ltsT, stsG.take i ++ ltsG)) := by
  unfold joinLists
  simp only [hmx, hmn, bind, Except.bind, branchOp_eval, decide_eq_true_eq, pure, Except.pure]
  split
  · rfl
  · cases scanStop mn stsT 0 <;> rfl

theorem drop_gt_of_pairwise {l : List Rat} (hs : l.Pairwise (· < ·)) {m : Rat} {j : Nat} (hj : j < l.length)
    (h : m < l[j]) : ∀ x ∈ l.drop j, m < x := by
  intro x hx
  obtain ⟨k, hk, rfl⟩ := List.mem_drop_iff_getElem.mp hx
  rcases Nat.eq_zero_or_pos k with rfl | hk0
  · exact h
  · exact lt_trans h (List.pairwise_iff_getElem.mp hs j (j + k) hj (by omega) (by omega))

/-- The cut index `i` depends on the abscissae only.  If nothing is above `m` and `m` occurs, it is the last
    abscissa and the scan runs off the end. -/
theorem joinLists_sorted (m : Rat) (ltsRest stsT : List Rat)
    (hsts : stsT.Pairwise (· < ·)) (hlts : (m :: ltsRest).Pairwise (· < ·)) (hne : stsT ≠ []) :
    ∃ i, i ≤ stsT.length ∧ (∀ x ∈ stsT.take i, x ≤ m) ∧ (∀ x ∈ stsT.drop i, m < x) ∧
      ∀ ltsG stsG : List Rat, joinLists (m :: ltsRest) ltsG stsT stsG =
        if ∃ x ∈ stsT, m < x then .ok (stsT.take i ++ m :: ltsRest, stsG.take i ++ ltsG)
        else if m ∈ stsT then .error .indexError
        else .ok (stsT ++ m :: ltsRest, stsG ++ ltsG) := by
  obtain ⟨mx, hmx, hmxm, hmxle⟩ := pyMaxL_of_ne_nil stsT hne
  have hj := joinLists_eq hmx (pyMinL_sorted m ltsRest hlts)
  rw [scanStop_eq] at hj
  by_cases hab : ∃ x ∈ stsT, m < x
  · have hjl : stsT.findIdx (fun x => decide (m < x)) < stsT.length :=
      List.findIdx_lt_length.mpr (by simpa using hab)
    have hmy : m < stsT[stsT.findIdx (fun x => decide (m < x))] := by simpa using List.findIdx_getElem (w := hjl)
    refine ⟨_, hjl.le, fun x hx => ?_, drop_gt_of_pairwise hsts hjl hmy, fun ltsG stsG => ?_⟩
    · obtain ⟨i, hi, rfl⟩ := List.mem_take_iff_getElem.mp hx
      simpa using List.not_of_lt_findIdx (lt_of_lt_of_le hi (Nat.min_le_left _ _))
    · rw [if_pos hab]
      obtain ⟨x, hx, hmx'⟩ := hab
      rw [hj, if_neg (not_lt.mpr ((le_of_lt hmx').trans (hmxle x hx))), if_pos hjl, Nat.zero_add]
      rfl
  · have hall : ∀ x ∈ stsT, x ≤ m := fun x hx => not_lt.mp fun h => hab ⟨x, hx, h⟩
    refine ⟨stsT.length, le_refl _, fun x hx => hall x (List.mem_of_mem_take hx), by simp, fun ltsG stsG => ?_⟩
    rw [hj, if_neg hab]
    by_cases hbr : mx < m
    · rw [if_pos hbr, if_neg (fun hm => absurd (hmxle m hm) (not_le.mpr hbr))]
    · rw [if_neg hbr, if_neg (fun h => hab (by simpa using List.findIdx_lt_length.mp h)),
        if_pos (show m ∈ stsT from le_antisymm (hall mx hmxm) (not_lt.mp hbr) ▸ hmxm)]
      rfl

/-- The well-formed case: no short-time abscissa equals `m`. -/
theorem joinLists_strict (m : Rat) (ltsRest stsT : List Rat)
    (hsts : stsT.Pairwise (· < ·)) (hlts : (m :: ltsRest).Pairwise (· < ·)) (hne : stsT ≠ [])
    (hneq : ∀ x ∈ stsT, x ≠ m) :
    ∃ i, i ≤ stsT.length ∧
      (stsT.take i ++ m :: ltsRest).Pairwise (· < ·) ∧
      (∀ x ∈ stsT.take i, x < m) ∧ (∀ x ∈ stsT.drop i, m < x) ∧
      (i = stsT.length ↔ ∀ x ∈ stsT, x < m) ∧
      ∀ ltsG stsG : List Rat, stsG.length = stsT.length →
        joinLists (m :: ltsRest) ltsG stsT stsG = .ok (stsT.take i ++ m :: ltsRest, stsG.take i ++ ltsG) := by
  obtain ⟨i, hi, hle, hhi, hj⟩ := joinLists_sorted m ltsRest stsT hsts hlts hne
  have hlo : ∀ x ∈ stsT.take i, x < m := fun x hx =>
    lt_of_le_of_ne (hle x hx) (hneq x (List.mem_of_mem_take hx))
  have hpw : (stsT.take i ++ m :: ltsRest).Pairwise (· < ·) := by
    rw [List.pairwise_append]
    refine ⟨hsts.sublist (List.take_sublist _ _), hlts, fun a ha b hb => ?_⟩
    rcases List.mem_cons.mp hb with rfl | hb
    · exact hlo a ha
    · exact lt_trans (hlo a ha) (List.rel_of_pairwise_cons hlts hb)
  -- nothing is dropped when everything is below `m`: a dropped abscissa would be above it
  have hfull : (∀ x ∈ stsT, x < m) → i = stsT.length := fun hall =>
    le_antisymm hi (List.drop_eq_nil_iff.mp (List.eq_nil_iff_forall_not_mem.mpr fun x hx =>
      lt_asymm (hhi x hx) (hall x (List.mem_of_mem_drop hx))))
  refine ⟨i, hi, hpw, hlo, hhi, ⟨fun e x hx => hlo x (by rw [e, List.take_length]; exact hx), hfull⟩, ?_⟩
  intro ltsG stsG hgs
  rw [hj]
  split
  · rfl
  · rename_i hab
    have e := hfull fun x hx => lt_of_le_of_ne (not_lt.mp fun h => hab ⟨x, hx, h⟩) (hneq x hx)
    rw [if_neg (fun hm => hneq m hm rfl), e, List.take_length, ← hgs, List.take_length]

/-! ### Interpolation at a node -/

theorem sortPairs_of_sorted {l : List (Rat × Rat)} (h : l.Pairwise (fun a b => a.1 < b.1)) :
    sortPairs l = l := by
  unfold sortPairs
  apply List.mergeSort_of_pairwise
  exact h.imp (fun {a b} hab => by simpa using le_of_lt hab)

theorem sortPairs_perm (l : List (Rat × Rat)) : (sortPairs l).Perm l := List.mergeSort_perm _ _

theorem sortPairs_sorted (l : List (Rat × Rat)) : (sortPairs l).Pairwise (fun a b => a.1 ≤ b.1) := by
  have := List.pairwise_mergeSort (le := fun (a b : Rat × Rat) => decide (a.1 ≤ b.1))
    (fun a b c hab hbc => by simp at *; exact le_trans hab hbc)
    (fun a b => by simp; exact le_total _ _) l
  exact this.imp (fun {a b} h => by simpa using h)

theorem sortPairs_strict (l : List (Rat × Rat)) (hd : (l.map Prod.fst).Pairwise (· ≠ ·)) :
    (sortPairs l).Pairwise (fun a b => a.1 < b.1) := by
  have hp := sortPairs_perm l
  have hd' : (sortPairs l).Pairwise (fun a b => a.1 ≠ b.1) := by
    rw [List.pairwise_map] at hd
    exact (hp.pairwise_iff (fun {x y} h => Ne.symm h)).mpr hd
  have hs := sortPairs_sorted l
  exact (hs.and hd').imp (fun {a b} h => lt_of_le_of_ne h.1 h.2)

theorem linSeg_left (x0 y0 x1 y1 : Rat) : linSeg x0 y0 x1 y1 x0 = y0 := by
  unfold linSeg; simp

theorem linSeg_right (x0 y0 x1 y1 : Rat) (h : x0 ≠ x1) : linSeg x0 y0 x1 y1 x1 = y1 := by
  unfold linSeg
  have : x1 - x0 ≠ 0 := sub_ne_zero.mpr (Ne.symm h)
  field_simp
  ring

theorem linEval_of_le {x0 y0 x1 y1 : Rat} {rest : List (Rat × Rat)} {q : Rat} (h : q ≤ x1) :
    linEval ((x0, y0) :: (x1, y1) :: rest) q = linSeg x0 y0 x1 y1 q := by
  cases rest <;> simp [linEval, h]

theorem linEval_at_node : ∀ (nodes : List (Rat × Rat)), nodes.Pairwise (fun a b => a.1 < b.1) →
    ∀ p ∈ nodes, linEval nodes p.1 = p.2 := by
  intro nodes
  induction nodes with
  | nil => intro _ p hp; simp at hp
  | cons a rest ih =>
    intro hs p hp
    obtain ⟨x0, y0⟩ := a
    cases rest with
    | nil => rw [List.mem_singleton.mp hp]; rfl
    | cons b rest =>
      obtain ⟨x1, y1⟩ := b
      have hlt : x0 < x1 := List.rel_of_pairwise_cons hs List.mem_cons_self
      have hs' := (List.pairwise_cons.mp hs).2
      rcases List.mem_cons.mp hp with rfl | hp
      · rw [linEval_of_le hlt.le, linSeg_left]
      rcases List.mem_cons.mp hp with rfl | hp'
      · rw [linEval_of_le le_rfl, linSeg_right _ _ _ _ hlt.ne]
      · obtain ⟨c, rest', rfl⟩ := List.exists_cons_of_ne_nil (List.ne_nil_of_mem hp')
        have h1 : ¬ p.1 ≤ x1 := not_le.mpr (List.rel_of_pairwise_cons hs' hp')
        simp only [linEval, h1, if_false]
        exact ih hs' p hp

theorem outOfBounds_node {nodes : List (Rat × Rat)} (hs : nodes.Pairwise (fun a b => a.1 < b.1))
    {p : Rat × Rat} (hp : p ∈ nodes) : outOfBounds nodes p.1 = false := by
  have hne := List.ne_nil_of_mem hp
  have hle : nodes.Pairwise (fun a b => a.1 ≤ b.1) := hs.imp le_of_lt
  have : Std.Refl (fun a b : Rat × Rat => a.1 ≤ b.1) := ⟨fun _ => le_rfl⟩
  unfold outOfBounds
  rw [List.head?_eq_some_head hne, List.getLast?_eq_some_getLast hne]
  simp only [Bool.or_eq_false_iff, decide_eq_false_iff_not, not_lt]
  exact ⟨hle.rel_head hp, hle.rel_getLast hp⟩

theorem callInterp_node {nodes : List (Rat × Rat)} (hs : nodes.Pairwise (fun a b => a.1 < b.1))
    {p : Rat × Rat} (hp : p ∈ nodes) : callInterp nodes p.1 = .ok p.2 := by
  unfold callInterp
  rw [outOfBounds_node hs hp, linEval_at_node _ hs p hp]; rfl

theorem lagBasis_cons (xi a : Rat) (l : List Rat) (q : Rat) :
    lagBasis xi (a :: l) q = (q - a) / (xi - a) * lagBasis xi l q := rfl

theorem lagBasis_zero (xi : Rat) (others : List Rat) (q : Rat) (h : q ∈ others) : lagBasis xi others q = 0 := by
  induction others with
  | nil => simp at h
  | cons a l ih =>
    rw [lagBasis_cons]
    rcases List.mem_cons.mp h with rfl | h
    · rw [sub_self, zero_div, zero_mul]
    · rw [ih h, mul_zero]

theorem lagBasis_one (xi : Rat) (others : List Rat) (h : xi ∉ others) : lagBasis xi others xi = 1 := by
  induction others with
  | nil => rfl
  | cons a l ih =>
    rw [List.mem_cons, not_or] at h
    rw [lagBasis_cons, ih h.2, div_self (sub_ne_zero.mpr h.1), mul_one]

theorem lagAux_zero (post : List (Rat × Rat)) : ∀ (pre : List (Rat × Rat)) (q : Rat),
    q ∈ pre.map Prod.fst → lagAux pre post q = 0 := by
  induction post with
  | nil => intro pre q _; simp [lagAux]
  | cons a post ih =>
    intro pre q hq
    obtain ⟨x, y⟩ := a
    unfold lagAux
    rw [lagBasis_zero x _ q (by simp only [List.map_append, List.mem_append]; exact Or.inl hq)]
    rw [ih (pre ++ [(x, y)]) q (by simp only [List.map_append, List.mem_append]; exact Or.inl hq)]
    simp

/-- The term of the node itself has basis value 1; every other term vanishes at `p.1`. -/
theorem lagAux_at_node (post : List (Rat × Rat)) : ∀ (pre : List (Rat × Rat)) (p : Rat × Rat),
    ((pre ++ post).map Prod.fst).Nodup → p ∈ post → lagAux pre post p.1 = p.2 := by
  induction post with
  | nil => intro _ _ _ hp; cases hp
  | cons a post ih =>
    intro pre p hd hp
    obtain ⟨x, y⟩ := a
    have ih' := ih (pre ++ [(x, y)]) p (by simpa using hd)
    rw [List.map_append, List.map_cons, List.nodup_middle, List.nodup_cons, ← List.map_append] at hd
    rw [lagAux]
    rcases List.mem_cons.mp hp with rfl | hp'
    · rw [lagBasis_one _ _ hd.1, lagAux_zero post _ _ (by simp), mul_one, add_zero]
    · rw [lagBasis_zero x _ p.1 (List.mem_map_of_mem (List.mem_append_right _ hp')), ih' hp', mul_zero, zero_add]

theorem lagrangeEval_at_node {nodes : List (Rat × Rat)} (hd : (nodes.map Prod.fst).Pairwise (· ≠ ·))
    {p : Rat × Rat} (hp : p ∈ nodes) : lagrangeEval nodes p.1 = p.2 :=
  lagAux_at_node nodes [] p hd hp

/-- Kinds whose interpolant is covered by a theorem: linear and Lagrange (any number of nodes), the parabola
    through three nodes, the cubic through four. -/
def Covered (k : RKind) (n : Nat) : Prop :=
  k = .linear ∨ (k = .quadratic ∧ n = 3) ∨ (k = .cubic ∧ n = 4) ∨ k = .lagrange

theorem evalTable_at_node (k : RKind) (extrap : Bool) (nodes : List (Rat × Rat))
    (hd : (nodes.map Prod.fst).Pairwise (· ≠ ·)) (p : Rat × Rat) (hp : p ∈ nodes)
    (hk : Covered k nodes.length) : evalTable k extrap nodes p.1 = .ok p.2 := by
  have hperm := sortPairs_perm nodes
  have hs := sortPairs_strict nodes hd
  have hps : p ∈ sortPairs nodes := hperm.mem_iff.mpr hp
  have hob := outOfBounds_node hs hps
  have hlen : (sortPairs nodes).length = nodes.length := hperm.length_eq
  have hds : ((sortPairs nodes).map Prod.fst).Pairwise (· ≠ ·) := by
    rw [List.pairwise_map]; exact hs.imp (fun {a b} h => ne_of_lt h)
  rcases hk with rfl | ⟨rfl, hn⟩ | ⟨rfl, hn⟩ | rfl
  · simp only [evalTable, hob, Bool.and_false, Bool.false_eq_true, if_false]
    rw [linEval_at_node _ hs p hps]
  · simp only [evalTable, hob, Bool.and_false, Bool.false_eq_true, if_false, hlen, hn, if_true]
    rw [lagrangeEval_at_node hds hps]
  · simp only [evalTable, hob, Bool.and_false, Bool.false_eq_true, if_false, hlen, hn, if_true]
    rw [lagrangeEval_at_node hds hps]
  · simp only [evalTable]
    rw [lagrangeEval_at_node hd hp]

/-! ### The returned table -/

theorem zip_pairwise_fst {R : Rat → Rat → Prop} {t g : List Rat} (hlen : t.length ≤ g.length)
    (h : t.Pairwise R) : (t.zip g).Pairwise (fun a b => R a.1 b.1) := by
  rw [← List.pairwise_map (f := Prod.fst) (R := R), List.map_fst_zip hlen]; exact h

theorem getElem_mem_zip {l r : List Rat} {k : Nat} (hk : k < l.length) (hk' : k < r.length) :
    (l[k], r[k]) ∈ l.zip r :=
  List.mem_iff_getElem.mpr ⟨k, by simp [hk, hk'], by simp⟩

theorem combineStsLts_error {ltsT ltsG stsT stsG : List Rat} {e : PyErr}
    (h : joinLists ltsT ltsG stsT stsG = .error e) : combineStsLts ltsT ltsG stsT stsG = .error e := by
  unfold combineStsLts; rw [h]; rfl

theorem combineStsLts_ok {ltsT ltsG stsT stsG t g : List Rat}
    (h : joinLists ltsT ltsG stsT stsG = .ok (t, g)) (hlen : t.length = g.length) (hne : t ≠ [])
    (hpw : t.Pairwise (· < ·)) : combineStsLts ltsT ltsG stsT stsG = .ok (t.zip g) := by
  unfold combineStsLts
  rw [h]
  simp only [bind, Except.bind, interp1dCtor, hlen, ne_eq, not_true_eq_false, if_false]
  rw [if_neg (by rw [← hlen]; exact fun h0 => hne (List.length_eq_zero_iff.mp h0)),
    sortPairs_of_sorted (zip_pairwise_fst (le_of_eq hlen) hpw)]

/-! ### `g_function_interpolation` -/

theorem column_ok (curves : List Curve) (i : Nat) (h : ∀ c ∈ curves, i < c.g.length) :
    column curves i = .ok (curves.map (fun c => (c.h, c.g.getD i 0))) := by
  unfold column
  apply Py.mapM_ok
  intro c hc
  have := h c hc
  simp [List.getD, this]

theorem interpTable_at_node (gf : GF) (tk : RKind) (tex : Bool) (c : Curve) (hc : c ∈ gf.curves)
    (hd : (gf.curves.map (·.h)).Pairwise (· ≠ ·))
    (hlen : ∀ c' ∈ gf.curves, c'.g.length = gf.logTime.length)
    (hk : Covered tk gf.curves.length) :
    interpTable gf tk tex c.h = .ok (c.g, c.rb) := by
  -- any quantity `X` tabulated over the stored heights is reproduced at `c.h`
  have key : ∀ X : Curve → Rat, evalTable tk tex (gf.curves.map (fun c' => (c'.h, X c'))) c.h = .ok (X c) :=
    fun X => evalTable_at_node tk tex _ (by simpa [List.map_map, Function.comp_def] using hd) (c.h, X c)
      (List.mem_map.mpr ⟨c, hc, rfl⟩) (by simpa using hk)
  have hcols : (List.range gf.logTime.length).mapM (column gf.curves)
      = .ok ((List.range gf.logTime.length).map (fun i => gf.curves.map (fun c' => (c'.h, c'.g.getD i 0)))) :=
    Py.mapM_ok _ _ _ fun i hi => column_ok _ _ fun c' hc' => by rw [hlen c' hc']; simpa using hi
  have hg : ((List.range gf.logTime.length).map (fun i => gf.curves.map (fun c' => (c'.h, c'.g.getD i 0)))).mapM
      (fun nodes => evalTable tk tex nodes c.h) = .ok ((List.range gf.logTime.length).map (fun i => c.g.getD i 0)) := by
    rw [Py.mapM_eq_ok, List.forall₂_map_left_iff, List.forall₂_map_right_iff, List.forall₂_same]
    exact fun i _ => key _
  unfold interpTable
  rw [hcols]
  simp only [bind, Except.bind, key, hg, pure, Except.pure]
  rw [range_map_getD c.g 0 (hlen c hc).ge, ← hlen c hc, List.take_length]

theorem closeTolerance_pos : 0 < Gen.GJoinConsts.closeTolerance := by
  unfold Gen.GJoinConsts.closeTolerance; norm_num

theorem tolerance_pos : 0 < Gen.GJoinConsts.tolerance := by
  unfold Gen.GJoinConsts.tolerance; norm_num

/-- Any two stored heights differ by at least `2·close_tolerance`: the snapping tells them apart. -/
def Separated (hs : List Rat) : Prop :=
  ∀ a ∈ hs, ∀ b ∈ hs, a ≠ b → 2 * Gen.GJoinConsts.closeTolerance ≤ |a - b|

theorem sep_eq {hs : List Rat} (hsep : Separated hs) {a b : Rat} (ha : a ∈ hs) (hb : b ∈ hs)
    (h : |a - b| < 2 * Gen.GJoinConsts.closeTolerance) : a = b := by
  by_contra hne
  exact absurd (hsep a ha b hb hne) (not_le.mpr h)

theorem snap_stored {hs : List Rat} (hsep : Separated hs) {h x : Rat} (hh : h ∈ hs) (hx : x ∈ hs) :
    (if |h - x| < Gen.GJoinConsts.closeTolerance then x else h) = h :=
  ite_eq_right_iff.mpr fun c => (sep_eq hsep hh hx (by linarith [closeTolerance_pos])).symm

theorem hEqOf_node (B bOverH : Rat) (hs : List Rat) (h mx mn : Rat) (hb : bOverH ≠ 0)
    (hmx : pyMaxL hs = .ok mx) (hmn : pyMinL hs = .ok mn) (hh : h ∈ hs) (hsep : Separated hs)
    (hcase : 1 / bOverH * B = h ∨ (h = mx ∧ |1 / bOverH * B - mx| < Gen.GJoinConsts.closeTolerance)
      ∨ (h = mn ∧ |1 / bOverH * B - mn| < Gen.GJoinConsts.closeTolerance)) :
    hEqOf B bOverH hs = .ok h := by
  have hmxm := (pyMaxL_ok hmx).1
  have hmnm := (pyMinL_ok hmn).1
  unfold hEqOf
  simp only [hb, if_false, hmx, hmn, bind, Except.bind, pure, Except.pure, ratAbs_eq_abs]
  congr 1
  rcases hcase with e | ⟨rfl, e⟩ | ⟨rfl, e⟩
  · rw [e, snap_stored hsep hh hmxm, snap_stored hsep hh hmnm]
  · rw [if_pos e, snap_stored hsep hh hmnm]
  · by_cases c1 : |1 / bOverH * B - mx| < Gen.GJoinConsts.closeTolerance
    · -- snapped to the largest height first: it is within `2·close_tolerance` of the smallest
      have hct := closeTolerance_pos
      have : mx = h := sep_eq hsep hmxm hh (by
        have := abs_sub_le mx (1 / bOverH * B) h
        rw [abs_sub_comm mx (1 / bOverH * B)] at this
        linarith)
      rw [if_pos c1, this, sub_self, abs_zero, if_pos hct]
    · rw [if_neg c1, if_pos e]

theorem tableFor_eq (cache : Cache) (k : RKind) (ex : Bool) : tableFor cache k ex = (k, ex) := by
  unfold tableFor
  cases cache with
  | none => rfl
  | some ce => exact ite_eq_right_iff.mpr id

/-- A step before the table fails, with the same error whatever the table state; or the call is the one-curve
    rule, or the evaluation of a table built for the present call. -/
theorem gFunctionInterpolation_cases (gf : GF) (bOverH : Rat) (kind : Kind) :
    (∃ e, ∀ cache, gFunctionInterpolation gf bOverH kind cache = .error e) ∨
    ∃ hEq mx mn, hEqOf gf.B bOverH (gf.curves.map (·.h)) = .ok hEq ∧
      pyMaxL (gf.curves.map (·.h)) = .ok mx ∧ pyMinL (gf.curves.map (·.h)) = .ok mn ∧
      ((resolveKind kind gf.curves.length = .ok none ∧ ∀ cache,
          gFunctionInterpolation gf bOverH kind cache = singleCurve gf hEq mn (needsExtrap hEq mn mx) cache) ∨
       ∃ k, resolveKind kind gf.curves.length = .ok (some k) ∧ ∀ cache,
          gFunctionInterpolation gf bOverH kind cache =
            (interpTable gf k (needsExtrap hEq mn mx) hEq).map fun p =>
              { g := p.1, rb := p.2, d := gf.d, hEq := hEq, warned := needsExtrap hEq mn mx, single := false,
                cache := some (k, needsExtrap hEq mn mx) }) := by
  unfold gFunctionInterpolation
  simp only [tableFor_eq]
  cases hEqOf gf.B bOverH (gf.curves.map (·.h)) with
  | error e => exact Or.inl ⟨e, fun _ => rfl⟩
  | ok hEq =>
    cases pyMaxL (gf.curves.map (·.h)) with
    | error e => exact Or.inl ⟨e, fun _ => rfl⟩
    | ok mx =>
      cases pyMinL (gf.curves.map (·.h)) with
      | error e => exact Or.inl ⟨e, fun _ => rfl⟩
      | ok mn =>
        cases resolveKind kind gf.curves.length with
        | error e => exact Or.inl ⟨e, fun _ => rfl⟩
        | ok r =>
          refine Or.inr ⟨hEq, mx, mn, rfl, rfl, rfl, ?_⟩
          cases r with
          | none => exact Or.inl ⟨rfl, fun _ => rfl⟩
          | some k =>
            refine Or.inr ⟨k, rfl, fun cache => ?_⟩
            simp only [bind, Except.bind]
            cases interpTable gf k (needsExtrap hEq mn mx) hEq <;> rfl

/-- With one stored height `H > 0` the test `(h_eq − H)/H < tol or H − h_eq < tol` holds for every `h_eq`. -/
theorem singleCurve_accepts {gf : GF} {c : Curve} (hcur : gf.curves = [c]) (hpos : 0 < c.h) (hEq : Rat) (ex : Bool)
    (cache : Cache) :
    singleCurve gf hEq c.h ex cache =
      .ok { g := c.g, rb := c.rb, d := gf.d, hEq := hEq, warned := ex, single := true, cache := cache } := by
  have htol := tolerance_pos
  have hrule : (hEq - c.h) / c.h < Gen.GJoinConsts.tolerance ∨ c.h - hEq < Gen.GJoinConsts.tolerance := by
    by_cases hle : hEq ≤ c.h
    · left
      have : (hEq - c.h) / c.h ≤ 0 := div_nonpos_of_nonpos_of_nonneg (by linarith) (le_of_lt hpos)
      linarith
    · right; linarith [not_le.mp hle]
  unfold singleCurve
  simp only [hcur, ne_of_gt hpos, if_false, hrule, if_true]

theorem singleCurve_cache (gf : GF) (hEq mn : Rat) (ex : Bool) (cache : Cache) :
    singleCurve gf hEq mn ex cache = (singleCurve gf hEq mn ex none).map (fun o => { o with cache := cache }) := by
  unfold singleCurve
  split
  · rfl
  · split
    · rfl
    · split
      · rfl
      · rfl

theorem gFunctionInterpolation_single {gf : GF} {c : Curve} (hcur : gf.curves = [c]) (hpos : 0 < c.h)
    {bOverH : Rat} (hb : bOverH ≠ 0) :
    ∃ hEq, hEqOf gf.B bOverH [c.h] = .ok hEq ∧ ∀ cache, gFunctionInterpolation gf bOverH .default cache =
      .ok { g := c.g, rb := c.rb, d := gf.d, hEq := hEq, warned := needsExtrap hEq c.h c.h, single := true,
            cache := cache } := by
  have hmx : pyMaxL [c.h] = .ok c.h := rfl
  have hmn : pyMinL [c.h] = .ok c.h := rfl
  have hres : resolveKind .default 1 = .ok none := by decide
  obtain ⟨hEq, hq⟩ : ∃ hEq, hEqOf gf.B bOverH [c.h] = .ok hEq := by
    unfold hEqOf
    simp only [hb, if_false, hmx, hmn, bind, Except.bind, pure, Except.pure]
    exact ⟨_, rfl⟩
  refine ⟨hEq, hq, fun cache => ?_⟩
  unfold gFunctionInterpolation
  simp only [hcur, List.map_cons, List.map_nil, hq, hmx, hmn, List.length_singleton, hres, bind, Except.bind,
    singleCurve_accepts hcur hpos]

theorem singleCurve_single {gf : GF} {hEq mn : Rat} {ex : Bool} {cache : Cache} {o : InterpOut}
    (h : singleCurve gf hEq mn ex cache = .ok o) : o.single = true := by
  unfold singleCurve at h
  split at h
  · cases h
  · split at h
    · cases h
    · split at h
      · injection h with h; subst h; rfl
      · cases h

theorem radiusCorrection_pos (log : Rat → Rat) (g : List Rat) {a b : Rat} (ha : 0 < a) (hb : 0 < b) :
    radiusCorrection log g a b = .ok (g.map (fun v => v - log (b / a))) := by
  unfold radiusCorrection radiusCorrectionG
  cases g with
  | nil => rfl
  | cons x xs => simp only [ne_of_gt ha, if_false, not_le.mpr (div_pos hb ha)]

theorem radiusCorrectionG_trans {K : Type} [Field K] (log : K → K) (g : List K) (r0 r1 r2 : K)
    (h : log (r2 / r0) = log (r2 / r1) + log (r1 / r0)) :
    radiusCorrectionG log (radiusCorrectionG log g r0 r1) r1 r2 = radiusCorrectionG log g r0 r2 := by
  unfold radiusCorrectionG
  rw [List.map_map]
  apply List.map_congr_left
  intro v _
  simp only [Function.comp, h]
  ring

/-- Because `r₂/r₀ = (r₂/r₁)·(r₁/r₀)`. -/
theorem radiusCorrection_trans (log : Rat → Rat) (g : List Rat) {r0 r1 r2 : Rat} (h0 : 0 < r0) (h1 : 0 < r1)
    (h2 : 0 < r2) (hmul : ∀ a b, 0 < a → 0 < b → log (a * b) = log a + log b) :
    (radiusCorrection log g r0 r1 >>= fun g1 => radiusCorrection log g1 r1 r2) = radiusCorrection log g r0 r2 := by
  rw [radiusCorrection_pos log g h0 h1, radiusCorrection_pos log g h0 h2, Py.ok_bind,
    radiusCorrection_pos log _ h1 h2]
  congr 1
  apply radiusCorrectionG_trans
  rw [← hmul _ _ (div_pos h2 h1) (div_pos h1 h0), div_mul_div_cancel₀ h1.ne']

/-! ### Fixture -/

/-- The sizing family `[60, 97.5, 135]` m, `B = 5` m, asked at `B/H = 5/97.5`: the middle curve. -/
def gf3 : GF :=
  { B := 5, d := 2, logTime := [-17 / 2, -39 / 5],
    curves := [⟨60, 3 / 40, [1, 2]⟩, ⟨195 / 2, 3 / 40, [3, 5]⟩, ⟨135, 3 / 40, [4, 9]⟩] }

theorem gf3_separated : Separated (gf3.curves.map (·.h)) := by
  unfold Separated
  decide +kernel

theorem gf3_distinct : (gf3.curves.map (·.h)).Pairwise (· ≠ ·) := by decide +kernel

theorem gf3_lengths : ∀ c ∈ gf3.curves, c.g.length = gf3.logTime.length := by decide

theorem gf3_max : pyMaxL (gf3.curves.map (·.h)) = .ok 135 := by decide +kernel

theorem gf3_min : pyMinL (gf3.curves.map (·.h)) = .ok 60 := by decide +kernel

end GHEVerif.GJoin
