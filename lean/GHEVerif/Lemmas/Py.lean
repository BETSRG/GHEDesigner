/- What the definitions of `Model/Py.lean` do, in Mathlib's vocabulary: `ratAbs`, `ratMax`, `ratMin` are
   `|·|`, `max`, `min`; Python's `max(list)` / `min(list)` as a left fold; the `Py` monad; `pyDiv`,
   `pyTrunc`, `pyIndex`, `pyRange`. -/
import GHEVerif.Model.Py
import Mathlib.Algebra.Order.Ring.Rat
import Mathlib.Data.Rat.Floor

namespace GHEVerif

/-! ### `ratAbs`, `ratMax`, `ratMin` -/

theorem ratAbs_eq_abs (x : Rat) : ratAbs x = |x| := by
  unfold ratAbs
  split
  · rw [abs_of_neg (by assumption)]
  · rw [abs_of_nonneg (not_lt.mp (by assumption))]

theorem ratMax_eq_max : ratMax = max := by
  funext a b
  unfold ratMax
  split
  · rw [max_eq_right (le_of_lt (by assumption))]
  · rw [max_eq_left (not_lt.mp (by assumption))]

theorem ratMin_eq_min : ratMin = min := by
  funext a b
  unfold ratMin
  split
  · rw [min_eq_right (le_of_lt (by assumption))]
  · rw [min_eq_left (not_lt.mp (by assumption))]

/-! ### folds that keep the better of two elements -/

/-- A left fold whose step keeps one of its two arguments, one of least key, returns the seed or
    an element of the list, and nothing seen has a smaller key.  Python's `min(list)`, `max(list)`
    and the "keep the better candidate" loops of the searches are such folds. -/
theorem foldl_argmin_spec {α β : Type} [LinearOrder β] (key : α → β) (f : α → α → α)
    (hf : ∀ m y, (f m y = m ∧ key m ≤ key y) ∨ (f m y = y ∧ key y ≤ key m)) (l : List α) :
    ∀ acc : α, l.foldl f acc ∈ acc :: l ∧ ∀ e ∈ acc :: l, key (l.foldl f acc) ≤ key e := by
  induction l with
  | nil =>
    intro acc
    exact ⟨List.mem_singleton.mpr rfl, fun e he => by rw [List.mem_singleton.mp he]; exact le_refl _⟩
  | cons y l ih =>
    intro acc
    rw [List.foldl_cons]
    obtain ⟨h1, h2⟩ := ih (f acc y)
    have h0 := h2 _ List.mem_cons_self
    obtain ⟨hm, ha, hy⟩ : f acc y ∈ [acc, y] ∧ key (f acc y) ≤ key acc ∧ key (f acc y) ≤ key y := by
      rcases hf acc y with ⟨e, h⟩ | ⟨e, h⟩ <;> rw [e]
      · exact ⟨List.mem_cons_self, le_refl _, h⟩
      · exact ⟨List.mem_cons_of_mem _ List.mem_cons_self, h, le_refl _⟩
    constructor
    · rcases List.mem_cons.mp h1 with h | h
      · rw [h]; exact List.mem_append_left l hm
      · exact List.mem_cons_of_mem _ (List.mem_cons_of_mem _ h)
    · exact List.forall_mem_cons.mpr ⟨h0.trans ha, List.forall_mem_cons.mpr
        ⟨h0.trans hy, fun e he => h2 e (List.mem_cons_of_mem _ he)⟩⟩

theorem foldl_min_spec {α : Type} [LinearOrder α] (xs : List α) (x : α) :
    xs.foldl min x ∈ x :: xs ∧ ∀ y ∈ x :: xs, xs.foldl min x ≤ y :=
  foldl_argmin_spec id min (fun m y => (min_cases m y).imp id (And.imp_right le_of_lt)) xs x

theorem foldl_max_spec {α : Type} [LinearOrder α] (xs : List α) (x : α) :
    xs.foldl max x ∈ x :: xs ∧ ∀ y ∈ x :: xs, y ≤ xs.foldl max x :=
  foldl_min_spec (α := αᵒᵈ) xs x

/-! ### the `Py` monad -/

theorem Py.ok_bind {α β : Type} (a : α) (f : α → Py β) : ((.ok a : Py α) >>= f) = f a := rfl

theorem Py.bind_eq_ok {α β : Type} {x : Py α} {f : α → Py β} {b : β} :
    x >>= f = .ok b ↔ ∃ a, x = .ok a ∧ f a = .ok b := by
  cases x with
  | error e => exact ⟨fun h => (by cases h), fun ⟨_, h, _⟩ => (by cases h)⟩
  | ok a => exact ⟨fun h => ⟨a, rfl, h⟩, fun ⟨_, h, hf⟩ => by cases h; exact hf⟩

theorem Py.map_eq_ok {α β ε : Type} {f : α → β} {x : Except ε α} {b : β} :
    x.map f = .ok b ↔ ∃ a, x = .ok a ∧ f a = b := by
  cases x with
  | error e => exact ⟨fun h => (by cases h), fun ⟨_, h, _⟩ => (by cases h)⟩
  | ok a => exact ⟨fun h => ⟨a, rfl, Except.ok.inj h⟩, fun ⟨_, h, hf⟩ => by cases h; exact congrArg _ hf⟩

/-- `[f(x) for x in l]` succeeds with `r` exactly when `f` succeeds on each element with the
    corresponding element of `r`. -/
theorem Py.mapM_eq_ok {α β : Type} {f : α → Py β} {l : List α} {r : List β} :
    l.mapM f = .ok r ↔ List.Forall₂ (fun x y => f x = .ok y) l r := by
  induction l generalizing r with
  | nil =>
    constructor
    · intro h; cases h; exact .nil
    · intro h; cases h; rfl
  | cons a l ih =>
    rw [List.mapM_cons]
    constructor
    · intro h
      obtain ⟨y, hy, h⟩ := Py.bind_eq_ok.mp h
      obtain ⟨ys, hys, h⟩ := Py.bind_eq_ok.mp h
      cases h
      exact .cons hy (ih.mp hys)
    · intro h
      cases h with
      | cons hy hys => rw [hy, ih.mpr hys]; rfl

theorem Py.mapM_ok {α β : Type} (f : α → Py β) (g : α → β) (l : List α) (h : ∀ x ∈ l, f x = .ok (g x)) :
    l.mapM f = .ok (l.map g) := by
  induction l with
  | nil => rfl
  | cons x xs ih =>
    rw [List.mapM_cons, h x List.mem_cons_self, ih fun y hy => h y (List.mem_cons_of_mem _ hy)]
    rfl

theorem Py.mapM_isOk {α β : Type} {f : α → Py β} {P : β → Prop} {l : List α} (h : ∀ x ∈ l, ∃ y, f x = .ok y ∧ P y) :
    ∃ r, l.mapM f = .ok r ∧ ∀ y ∈ r, P y := by
  induction l with
  | nil => exact ⟨[], rfl, nofun⟩
  | cons a l ih =>
    obtain ⟨y, hy, py⟩ := h a List.mem_cons_self
    obtain ⟨r, hr, pr⟩ := ih fun x hx => h x (List.mem_cons_of_mem _ hx)
    exact ⟨y :: r, by rw [List.mapM_cons, hy, hr]; rfl, List.forall_mem_cons.mpr ⟨py, pr⟩⟩

/-! ### `pyDiv`, `pyTrunc`, `pyIndex` -/

theorem pyDiv_ok {a b : Rat} (h : b ≠ 0) : pyDiv a b = .ok (a / b) := if_neg h

theorem pyDiv_zero (a : Rat) : pyDiv a 0 = .error .zeroDiv := if_pos rfl

theorem pyTrunc_intCast (z : Int) : pyTrunc (z : Rat) = z := by
  unfold pyTrunc
  split
  · exact Rat.floor_intCast z
  · exact Rat.ceil_intCast z

theorem pyIndex_natCast {α} (l : List α) (n : Nat) :
    pyIndex l (n : Int) = match l[n]? with | some x => .ok x | none => .error .indexError := by
  unfold pyIndex
  have h0 : ¬ ((n : Int) < 0) := by omega
  simp only [h0, if_false, false_or, Int.toNat_natCast]
  by_cases h : n < l.length
  · have : ¬ ((l.length : Int) ≤ (n : Int)) := by omega
    rw [if_neg this, List.getElem?_eq_getElem h]
  · have : ((l.length : Int) ≤ (n : Int)) := by omega
    rw [if_pos this, List.getElem?_eq_none (by omega)]

theorem pyIndex_nat {α} (l : List α) (k : Nat) (h : k < l.length) : pyIndex l (k : Int) = .ok l[k] := by
  rw [pyIndex_natCast, List.getElem?_eq_getElem h]

theorem pyIndex_of_nonneg {α} [Inhabited α] (l : List α) (i : Int) (h0 : 0 ≤ i) (h : i < l.length) :
    pyIndex l i = .ok (l.getD i.toNat default) := by
  obtain ⟨k, rfl⟩ := Int.eq_ofNat_of_zero_le h0
  have hk : k < l.length := by omega
  rw [pyIndex_nat l k hk]; simp [hk]

/-! ### `pyRange` -/

theorem mem_pyRange {lo hi n : Int} : n ∈ pyRange lo hi ↔ lo ≤ n ∧ n < hi := by
  simp only [pyRange, List.mem_map, List.mem_range]
  constructor
  · rintro ⟨k, hk, rfl⟩; omega
  · intro h; exact ⟨(n - lo).toNat, by omega, by omega⟩

theorem length_pyRange (lo hi : Int) : (pyRange lo hi).length = (hi - lo).toNat := by simp [pyRange]

theorem pyRange_eq_nil {lo hi : Int} : pyRange lo hi = [] ↔ hi ≤ lo := by
  simp only [pyRange, List.map_eq_nil_iff, List.range_eq_nil]
  omega

theorem pyRange_pairwise_lt (lo hi : Int) : (pyRange lo hi).Pairwise (· < ·) := by
  unfold pyRange
  rw [List.pairwise_map]
  exact List.Pairwise.imp (by intro a b h; omega) List.pairwise_lt_range

theorem pyRange_succ (lo hi : Int) (h : lo ≤ hi) : pyRange lo (hi + 1) = pyRange lo hi ++ [hi] := by
  unfold pyRange
  have : (hi + 1 - lo).toNat = (hi - lo).toNat + 1 := by omega
  rw [this, List.range_succ, List.map_append]
  simp; omega

theorem pyRange_append {lo mid hi : Int} (h1 : lo ≤ mid) (h2 : mid ≤ hi) :
    pyRange lo hi = pyRange lo mid ++ pyRange mid hi := by
  induction hi, h2 using Int.leInduction with
  | base => rw [pyRange_eq_nil.mpr (le_refl mid)]; simp
  | succ e he ih => rw [pyRange_succ lo e (by omega), pyRange_succ mid e he, ih, List.append_assoc]

theorem pyRange_cons {lo hi : Int} (h : lo < hi) : pyRange lo hi = lo :: pyRange (lo + 1) hi := by
  rw [pyRange_append (mid := lo + 1) (by omega) h, pyRange_succ lo lo le_rfl, pyRange_eq_nil.mpr le_rfl]
  rfl

theorem pyRange_shift (lo hi k : Int) : pyRange (lo + k) (hi + k) = (pyRange lo hi).map (· + k) := by
  unfold pyRange
  rw [show hi + k - (lo + k) = hi - lo by omega, List.map_map]
  apply List.map_congr_left
  intro a _; simp; omega

/-! ### `getD`, `Forall₂` -/

theorem range_map_getD {α : Type} (l : List α) (d : α) {n : Nat} (h : n ≤ l.length) :
    (List.range n).map (fun i => l.getD i d) = l.take n := by
  apply List.ext_getElem
  · simp [h]
  · intro k h1 h2
    simp only [List.length_map, List.length_range] at h1
    simp [List.getD_eq_getElem?_getD, List.getElem?_eq_getElem (h1.trans_le h)]

theorem forall₂_mem_left {α β : Type} {P : α → β → Prop} {l1 : List α} {l2 : List β} (h : List.Forall₂ P l1 l2) :
    ∀ a ∈ l1, ∃ b ∈ l2, P a b := by
  induction h with
  | nil => intro a ha; cases ha
  | cons hab _ ih =>
    intro x hx
    rcases List.mem_cons.mp hx with rfl | hx
    · exact ⟨_, List.mem_cons_self, hab⟩
    · obtain ⟨b, hb, hp⟩ := ih x hx
      exact ⟨b, List.mem_cons_of_mem _ hb, hp⟩

theorem forall₂_mem_right {α β : Type} {P : α → β → Prop} {l1 : List α} {l2 : List β} (h : List.Forall₂ P l1 l2) :
    ∀ b ∈ l2, ∃ a ∈ l1, P a b :=
  forall₂_mem_left (P := fun b a => P a b) h.flip

end GHEVerif
