/- Closed forms of the generated flow definitions (`retrieve_flow`, the `BaseGHE.__init__` slice),
   of `initialize_ghe` composed from them, and of `set_design` call histories. -/
import GHEVerif.Model.Flow
import GHEVerif.Lemmas.Py
import Mathlib.Tactic.Ring
import Mathlib.Tactic.NormNum
import Mathlib.Data.List.Induction

namespace GHEVerif.Flow
open GHEVerif

theorem length_cast_pos {cs : List (Rat × Rat)} (h : cs ≠ []) : (0 : Rat) < ((cs.length : Nat) : Rat) :=
  Nat.cast_pos.mpr (List.length_pos_iff.mpr h)

theorem length_cast_ne_zero {cs : List (Rat × Rat)} (h : cs ≠ []) : ((cs.length : Nat) : Rat) ≠ 0 :=
  (length_cast_pos h).ne'

/-! ### `retrieve_flow`: each fact is proved for both generated copies, from the text of each -/

theorem retrieveFlow_borehole (c : Copy) (v : Rat) (cs : List (Rat × Rat)) (rho : Rat) :
    retrieveFlow c .borehole v cs rho = .ok (v * (cs.length : Rat), massFlow v rho) := by
  -- left for `rfl`: `(vFlow / 1000) * rho` against `massFlow`
  cases c
  · simp [retrieveFlow, Gen.retrieveFlow1D, massFlow]; rfl
  · simp [retrieveFlow, Gen.retrieveFlowRW, massFlow]; rfl

theorem retrieveFlow_system (c : Copy) (v : Rat) (cs : List (Rat × Rat)) (rho : Rat) (h : cs ≠ []) :
    retrieveFlow c .system v cs rho = .ok (v, massFlow (v / (cs.length : Rat)) rho) := by
  cases c <;> simp [retrieveFlow, Gen.retrieveFlow1D, Gen.retrieveFlowRW, pyDiv_ok (length_cast_ne_zero h), massFlow]

theorem retrieveFlow_system_nil (c : Copy) (v rho : Rat) :
    retrieveFlow c .system v [] rho = .error .zeroDiv := by
  cases c <;> simp [retrieveFlow, Gen.retrieveFlow1D, Gen.retrieveFlowRW, pyDiv_zero]

theorem retrieveFlow_other (c : Copy) (v : Rat) (cs : List (Rat × Rat)) (rho : Rat) :
    retrieveFlow c .other v cs rho = .error .valueError := by
  cases c <;> simp [retrieveFlow, Gen.retrieveFlow1D, Gen.retrieveFlowRW]

theorem retrieveFlow_spec (c : Copy) (ft : FlowType) (v : Rat) (cs : List (Rat × Rat)) (rho : Rat)
    (hft : ft ≠ .other) (h : cs ≠ []) :
    retrieveFlow c ft v cs rho =
      .ok (systemSpec ft v cs.length, massFlow (perBoreholeSpec ft v cs.length) rho) := by
  cases ft with
  | borehole => simpa [systemSpec, perBoreholeSpec] using retrieveFlow_borehole c v cs rho
  | system => simpa [systemSpec, perBoreholeSpec] using retrieveFlow_system c v cs rho h
  | other => exact absurd rfl hft

/-! ### the `BaseGHE.__init__` slice, `initialize_ghe` -/

theorem baseGheFlow_pos (vs : Rat) (cs : List (Rat × Rat)) (rho : Rat) (h : cs ≠ []) :
    Gen.baseGheFlow vs cs rho =
      .ok (vs / (cs.length : Rat), massFlow (vs / (cs.length : Rat)) rho, massFlow (vs / (cs.length : Rat)) rho) := by
  simp [Gen.baseGheFlow, pyDiv_ok (length_cast_ne_zero h), massFlow]

theorem baseGheFlow_nil (vs rho : Rat) : Gen.baseGheFlow vs [] rho = .error .zeroDiv := by
  simp [Gen.baseGheFlow, pyDiv_zero]

theorem systemSpec_div (ft : FlowType) (v : Rat) {cs : List (Rat × Rat)} (h : cs ≠ []) (hft : ft ≠ .other) :
    systemSpec ft v cs.length / (cs.length : Rat) = perBoreholeSpec ft v cs.length := by
  cases ft with
  | borehole => exact mul_div_cancel_right₀ v (length_cast_ne_zero h)
  | system => rfl
  | other => exact absurd rfl hft

theorem systemSpec_eq_mul (ft : FlowType) (v : Rat) {cs : List (Rat × Rat)} (h : cs ≠ []) (hft : ft ≠ .other) :
    systemSpec ft v cs.length = (cs.length : Rat) * perBoreholeSpec ft v cs.length := by
  rw [← systemSpec_div ft v h hft, mul_div_cancel₀ _ (length_cast_ne_zero h)]

theorem initializeGhe_closed (c : Copy) (ft : FlowType) (v : Rat) (cs : List (Rat × Rat)) (rho : Rat)
    (hft : ft ≠ .other) (h : cs ≠ []) :
    initializeGhe c ft v cs rho = .ok
      { vFlowSystem := systemSpec ft v cs.length
        mFlowG := massFlow (perBoreholeSpec ft v cs.length) rho
        vFlowBorehole := perBoreholeSpec ft v cs.length
        mFlowGhe := massFlow (perBoreholeSpec ft v cs.length) rho
        mFlowBhe := massFlow (perBoreholeSpec ft v cs.length) rho
        nbh := cs.length } := by
  have hsp : spacingCheck cs = .ok () := by
    cases cs with
    | nil => exact absurd rfl h
    | cons a t => rfl
  unfold initializeGhe
  rw [retrieveFlow_spec c ft v cs rho hft h]
  simp only [bind, Except.bind, hsp]
  rw [baseGheFlow_pos _ cs rho h, systemSpec_div ft v h hft]
  rfl

theorem initializeGhe_other (c : Copy) (v : Rat) (cs : List (Rat × Rat)) (rho : Rat) :
    initializeGhe c .other v cs rho = .error .valueError := by
  unfold initializeGhe
  rw [retrieveFlow_other]; rfl

theorem initializeGhe_system_nil (c : Copy) (v rho : Rat) :
    initializeGhe c .system v [] rho = .error .zeroDiv := by
  unfold initializeGhe
  rw [retrieveFlow_system_nil]; rfl

theorem initializeGhe_borehole_nil (c : Copy) (v rho : Rat) :
    initializeGhe c .borehole v [] rho = .error .indexError := by
  unfold initializeGhe
  rw [retrieveFlow_borehole]; rfl

/-! ### `massFlow` -/

theorem massFlow_mul_n (vb rho : Rat) (n : Rat) : massFlow vb rho * n = massFlow (vb * n) rho := by
  unfold massFlow; ring

theorem massFlow_strictMono (rho : Rat) (hrho : 0 < rho) (a b : Rat) (hab : a < b) :
    massFlow a rho < massFlow b rho :=
  mul_lt_mul_of_pos_right (div_lt_div_of_pos_right hab (by norm_num)) hrho

theorem massFlow_mono (rho : Rat) (hrho : 0 ≤ rho) (a b : Rat) (hab : a ≤ b) :
    massFlow a rho ≤ massFlow b rho :=
  mul_le_mul_of_nonneg_right (div_le_div_of_nonneg_right hab (by norm_num)) hrho

/-! ### `set_design` -/

theorem baseGhe_pos {n : Nat} (hn : n ≠ 0) (vs rho : Rat) :
    baseGhe vs n rho = .ok (vs / (n : Rat), massFlow (vs / (n : Rat)) rho) :=
  if_neg hn

theorem setDesign_other (m : Manager) (v : Rat) (throw : Bool) :
    setDesign m v .other throw = (m, if throw then .raised .valueError else .ret 1) :=
  if_pos rfl

theorem setDesign_no_geom {m : Manager} {ft : FlowType} (hft : ft ≠ .other) (hg : m.geom = none)
    (v : Rat) (throw : Bool) : setDesign m v ft throw = (m, .raised .other) := by
  unfold setDesign
  rw [if_neg hft, hg]

theorem setDesign_of_geom {m : Manager} {ft : FlowType} {k : Nat} (hft : ft ≠ .other) (hg : m.geom = some k)
    (hk : k < nMethods) (v : Rat) (throw : Bool) :
    setDesign m v ft throw = ({ m with design := some (v, ft, k) }, .ret 0) := by
  unfold setDesign
  rw [if_neg hft, hg]
  exact if_pos hk

theorem designFlow_of_design {m : Manager} {v : Rat} {ft : FlowType} {k : Nat} (h : m.design = some (v, ft, k))
    (c : Copy) (cs : List (Rat × Rat)) (rho : Rat) : designFlow m c cs rho = initializeGhe c ft v cs rho := by
  unfold designFlow
  rw [h]

theorem stepCall_geom (m : Manager) (c : Call) : (stepCall m c).geom = m.geom := by
  unfold stepCall setDesign
  split
  · rfl
  · split
    · rfl
    · split <;> rfl

theorem afterCalls_geom (m : Manager) (calls : List Call) : (afterCalls m calls).geom = m.geom := by
  unfold afterCalls
  induction calls generalizing m with
  | nil => rfl
  | cons c cs ih => simp only [List.foldl_cons]; rw [ih, stepCall_geom]

theorem stepCall_design (m : Manager) (k : Nat) (hk : k < nMethods) (hg : m.geom = some k) (c : Call) :
    (stepCall m c).design = if validCall c then some (c.1, c.2.1, k) else m.design := by
  unfold stepCall validCall
  by_cases h : c.2.1 = FlowType.other
  · rw [h, setDesign_other]
    rfl
  · rw [setDesign_of_geom h hg hk, if_pos (decide_eq_true h)]

theorem afterCalls_snoc (m : Manager) (cs : List Call) (c : Call) :
    afterCalls m (cs ++ [c]) = stepCall (afterCalls m cs) c := by
  unfold afterCalls; rw [List.foldl_append]; rfl

theorem afterCalls_design (m : Manager) (k : Nat) (hk : k < nMethods) (hg : m.geom = some k) (calls : List Call) :
    (afterCalls m calls).design =
      match (calls.filter validCall).getLast? with
      | some c => some (c.1, c.2.1, k)
      | none => m.design := by
  induction calls using List.reverseRecOn with
  | nil => rfl
  | append_singleton cs c ih =>
    rw [afterCalls_snoc, stepCall_design _ k hk (by rw [afterCalls_geom]; exact hg), ih, List.filter_append]
    by_cases hv : validCall c <;> simp [hv, List.filter]

theorem lastValid_snoc (l : List Call) (c : Call) (hv : validCall c = true) :
    ((l ++ [c]).filter validCall).getLast? = some c := by
  simp [List.filter_append, List.filter, hv]

theorem designFlow_afterCalls {m : Manager} {k : Nat} (hk : k < nMethods) (hg : m.geom = some k)
    {calls : List Call} {c : Call} (h : (calls.filter validCall).getLast? = some c)
    (cp : Copy) (cs : List (Rat × Rat)) (rho : Rat) :
    designFlow (afterCalls m calls) cp cs rho = initializeGhe cp c.2.1 c.1 cs rho :=
  designFlow_of_design (by rw [afterCalls_design m k hk hg, h]) cp cs rho

end GHEVerif.Flow
