/- Finite sums over `List.range`: summation by parts and Abel's inequality. -/
import Mathlib.Algebra.Order.BigOperators.Group.List
import Mathlib.Tactic.Ring
import Mathlib.Tactic.Linarith

namespace GHEVerif

/-- Summation by parts; only `g 0 … g n` occur. -/
theorem sum_range_by_parts (u g : Nat → Rat) (n : Nat) :
    ((List.range (n + 1)).map (fun j => (u (j + 1) - u j) * g j)).sum =
      u (n + 1) * g n - u 0 * g 0 + ((List.range n).map (fun j => u (j + 1) * (g j - g (j + 1)))).sum := by
  induction n with
  | zero => simp; ring
  | succ n ih => rw [List.sum_range_succ, ih, List.sum_range_succ (fun j => u (j + 1) * (g j - g (j + 1)))]; ring

/-- Abel's inequality: increments whose partial sums `u k - u 0` (`1 ≤ k ≤ n + 1`) stay below `B`, weighted
    by a non-negative non-increasing `g`, sum to at most `B * g 0`. -/
theorem abel_le (u g : Nat → Rat) (B : Rat) (n : Nat) (hu : ∀ k, 1 ≤ k → k ≤ n + 1 → u k - u 0 ≤ B)
    (hg : ∀ j, j < n → g (j + 1) ≤ g j) (hn : 0 ≤ g n) :
    ((List.range (n + 1)).map (fun j => (u (j + 1) - u j) * g j)).sum ≤ B * g 0 := by
  have e := sum_range_by_parts (fun k => u k - u 0) g n
  simp only [sub_sub_sub_cancel_right, sub_self, zero_mul, sub_zero] at e
  have t := List.sum_range_sub n fun j => -(B * g j)
  have b : ((List.range n).map (fun j => (u (j + 1) - u 0) * (g j - g (j + 1)))).sum
      ≤ ((List.range n).map (fun j => -(B * g (j + 1)) - -(B * g j))).sum :=
    List.sum_le_sum fun j hj => by
      have hj := List.mem_range.mp hj
      have := mul_le_mul_of_nonneg_right (hu (j + 1) (by omega) (by omega)) (sub_nonneg.mpr (hg j hj))
      linarith
  have := mul_le_mul_of_nonneg_right (hu (n + 1) (by omega) le_rfl) hn
  linarith

end GHEVerif
