/- `shape.point_polygon_check` in mathematical terms: the squaring cascade is the on-edge comparison over ℝ,
   the ray loop the crossing number with the half-open vertex rule, invariant under rotation and reversal. -/
import GHEVerif.Model.Polygon
import Mathlib.Analysis.Real.Sqrt
import Mathlib.Data.List.Rotate
import Mathlib.Tactic.Linarith
import Mathlib.Tactic.Ring
import Mathlib.Tactic.FieldSimp

namespace GHEVerif.Polygon

/-! ### the square-root cascade -/

theorem lt_iff_mul_self_lt {x y : ℝ} (hx : 0 ≤ x) : x < y ↔ 0 < y ∧ x * x < y * y :=
  ⟨fun h => ⟨hx.trans_lt h, mul_self_lt_mul_self hx h⟩,
   fun h => (mul_self_lt_mul_self_iff hx h.1.le).mpr h.2⟩

theorem ltMulSqrt_iff (x c d : ℚ) (hd : 0 ≤ d) :
    ltMulSqrt x c d = true ↔ (x : ℝ) < (c : ℝ) * Real.sqrt (d : ℝ) := by
  have hs : ∀ c' : ℝ, 0 ≤ c' → c' * √(d : ℝ) = √(c' * c' * d) := fun c' h => by
    rw [Real.sqrt_mul' _ (Rat.cast_nonneg.mpr hd), Real.sqrt_mul_self h]
  unfold ltMulSqrt
  split_ifs with hc hx hx
  · have h1 : (x : ℝ) < 0 := Rat.cast_lt_zero.mpr hx
    have h2 : (0 : ℝ) ≤ c := Rat.cast_nonneg.mpr hc
    simpa using h1.trans_le (mul_nonneg h2 (Real.sqrt_nonneg _))
  · rw [decide_eq_true_iff, hs c (Rat.cast_nonneg.mpr hc), Real.lt_sqrt (Rat.cast_nonneg.mpr (not_lt.mp hx)), sq]
    exact_mod_cast Iff.rfl
  · have h1 : (0 : ℝ) ≤ x := Rat.cast_nonneg.mpr hx
    have h2 : (c : ℝ) ≤ 0 := Rat.cast_nonpos.mpr (not_le.mp hc).le
    simpa using (mul_nonpos_of_nonpos_of_nonneg h2 (Real.sqrt_nonneg _)).trans h1
  · have h1 : (0 : ℝ) < -x := by exact_mod_cast neg_pos.mpr (not_le.mp hx)
    have h2 : (0 : ℝ) ≤ -c := by exact_mod_cast (neg_pos.mpr (not_le.mp hc)).le
    rw [decide_eq_true_iff, ← neg_lt_neg_iff (b := (x : ℝ)), ← neg_mul, hs _ h2, Real.sqrt_lt' h1, neg_mul_neg, neg_sq, sq]
    exact_mod_cast Iff.rfl

/-- Real core of the cascade: two squarings. -/
theorem sumSqrt_core (A B D t : ℝ) (hA : 0 ≤ A) (hB : 0 ≤ B) (hD : 0 ≤ D) (ht : 0 < t) :
    (-(t * t + D * D - A * A - B * B) < 2 * t * D ∧
      4 * (A * A) * (B * B) - (t * t + D * D - A * A - B * B) * (t * t + D * D - A * A - B * B)
        - 4 * t * t * (D * D) < 4 * (t * t + D * D - A * A - B * B) * t * D) ↔ A + B - D < t := by
  have h1 : A + B - D < t ↔ 2 * A * B < (t * t + D * D - A * A - B * B) + 2 * t * D := by
    rw [sub_lt_iff_lt_add, lt_iff_mul_self_lt (add_nonneg hA hB)]
    constructor
    · rintro ⟨_, h⟩; linarith
    · intro h; exact ⟨by linarith, by linarith⟩
  rw [h1, lt_iff_mul_self_lt (mul_nonneg (mul_nonneg zero_le_two hA) hB)]
  constructor <;> rintro ⟨h2, h3⟩ <;> exact ⟨by linarith, by linarith⟩

theorem ltSumSqrt_iff (a b d t : ℚ) (ha : 0 ≤ a) (hb : 0 ≤ b) (hd : 0 ≤ d) :
    ltSumSqrt a b d t = true ↔
      0 < t ∧ Real.sqrt (a : ℝ) + Real.sqrt (b : ℝ) - Real.sqrt (d : ℝ) < (t : ℝ) := by
  unfold ltSumSqrt
  split_ifs with ht
  · exact iff_of_false id fun h => not_lt.mpr ht h.1
  · have htq : 0 < t := not_le.mp ht
    have core := sumSqrt_core (Real.sqrt a) (Real.sqrt b) (Real.sqrt d) t (Real.sqrt_nonneg _)
      (Real.sqrt_nonneg _) (Real.sqrt_nonneg _) (Rat.cast_pos.mpr htq)
    rw [Real.mul_self_sqrt (Rat.cast_nonneg.mpr hd), Real.mul_self_sqrt (Rat.cast_nonneg.mpr ha),
      Real.mul_self_sqrt (Rat.cast_nonneg.mpr hb)] at core
    simp only [Bool.and_eq_true, ltMulSqrt_iff _ _ _ hd]
    push_cast
    rw [and_iff_right htq]
    exact core

theorem sqDist_nonneg (a b : Pt) : 0 ≤ sqDist a b :=
  add_nonneg (mul_self_nonneg _) (mul_self_nonneg _)

theorem sqDist_comm (a b : Pt) : sqDist a b = sqDist b a := by
  unfold sqDist; ring

/-- The real number `distance(a, b)` of the source: `sqrt((a0-b0)**2 + (a1-b1)**2)`. -/
noncomputable def rdist (a b : Pt) : ℝ := Real.sqrt ((sqDist a b : ℚ) : ℝ)

theorem rdist_nonneg (a b : Pt) : 0 ≤ rdist a b := Real.sqrt_nonneg _

theorem rdist_comm (a b : Pt) : rdist a b = rdist b a := by unfold rdist; rw [sqDist_comm]

theorem rdist_mul_self (a b : Pt) : rdist a b * rdist a b =
    ((a.1 : ℝ) - b.1) * ((a.1 : ℝ) - b.1) + ((a.2 : ℝ) - b.2) * ((a.2 : ℝ) - b.2) := by
  unfold rdist
  rw [Real.mul_self_sqrt (Rat.cast_nonneg.mpr (sqDist_nonneg a b))]
  unfold sqDist; push_cast; ring

/-- Cauchy–Schwarz in the plane. -/
theorem cs2d (a1 a2 b1 b2 r L : ℝ) (hr : 0 ≤ r) (hL : 0 ≤ L) (er : r * r = a1 * a1 + a2 * a2)
    (eL : L * L = b1 * b1 + b2 * b2) : a1 * b1 + a2 * b2 ≤ r * L := by
  have h : (r * L) ^ 2 = (a1 * a1 + a2 * a2) * (b1 * b1 + b2 * b2) := by rw [← er, ← eL]; ring
  exact (abs_le_of_sq_le_sq' (by linarith [sq_nonneg (a1 * b2 - a2 * b1)]) (mul_nonneg hr hL)).2

theorem rdist_triangle (u v p : Pt) : rdist u v ≤ rdist u p + rdist v p := by
  have c := cs2d ((u.1 : ℝ) - p.1) ((u.2 : ℝ) - p.2) ((p.1 : ℝ) - v.1) ((p.2 : ℝ) - v.2) (rdist u p) (rdist v p)
    (rdist_nonneg _ _) (rdist_nonneg _ _) (rdist_mul_self _ _) (by rw [rdist_mul_self]; ring)
  rw [mul_self_le_mul_self_iff (rdist_nonneg _ _) (add_nonneg (rdist_nonneg _ _) (rdist_nonneg _ _))]
  have h1 := rdist_mul_self u v
  have h2 := rdist_mul_self u p
  have h3 := rdist_mul_self v p
  linarith

/-- The source's `abs(distance(v1,p) + distance(v2,p) - distance(v1,v2)) < on_edge_tolerance`, over ℝ. -/
theorem onBand_iff (tol : ℚ) (e : Edge) (p : Pt) :
    onBand tol e p = true ↔ |rdist e.1 p + rdist e.2 p - rdist e.1 e.2| < (tol : ℝ) := by
  unfold onBand
  rw [ltSumSqrt_iff _ _ _ _ (sqDist_nonneg _ _) (sqDist_nonneg _ _) (sqDist_nonneg _ _)]
  have h0 : 0 ≤ rdist e.1 p + rdist e.2 p - rdist e.1 e.2 := sub_nonneg.mpr (rdist_triangle e.1 e.2 p)
  rw [abs_of_nonneg h0]
  exact and_iff_right_of_imp fun h' => by exact_mod_cast lt_of_le_of_lt h0 h'

/-! ### one edge of the ray loop -/

theorem counted_iff (e : Edge) (p : Pt) :
    counted e p = true ↔ (e.1.2 < p.2 ∧ p.2 ≤ e.2.2) ∨ (e.2.2 < p.2 ∧ p.2 ≤ e.1.2) := by
  unfold counted; simp

theorem counted_ne (e : Edge) (p : Pt) (h : counted e p = true) : e.1.2 ≠ e.2.2 := by
  rw [counted_iff] at h
  intro heq; rcases h with h | h <;> (rw [heq] at h; linarith)

theorem cross_eq (e : Edge) (p : Pt) (h : e.1.2 ≠ e.2.2) :
    cross e p = (xAt e p.2 - p.1) * (e.2.2 - e.1.2) := by
  unfold cross xAt Gen.ppcCross
  have h' : e.2.2 - e.1.2 ≠ 0 := sub_ne_zero.mpr (Ne.symm h)
  field_simp
  ring

theorem cross_eq_zero_iff (e : Edge) (p : Pt) (hc : counted e p = true) : cross e p = 0 ↔ xAt e p.2 = p.1 := by
  rw [cross_eq e p (counted_ne e p hc), mul_eq_zero, sub_eq_zero,
    or_iff_left (sub_ne_zero.mpr (counted_ne e p hc).symm)]

theorem hitsLine_iff (e : Edge) (p : Pt) : hitsLine e p = true ↔ counted e p = true ∧ cross e p = 0 := by
  unfold hitsLine
  rw [Bool.and_eq_true, decide_eq_true_iff]
  exact and_congr_right fun hc => (cross_eq_zero_iff e p hc).symm

theorem inRange_iff (py v1y v2y : ℚ) :
    Gen.ppcInRange py v1y v2y = true ↔ (v1y ≤ py ∧ py ≤ v2y) ∨ (py ≤ v1y ∧ v2y ≤ py) := by
  unfold Gen.ppcInRange Gen.ppcBetween; simp

theorem skip_iff (py v1y v2y : ℚ) :
    Gen.ppcSkip py v1y v2y = true ↔ (py = v1y ∧ v1y ≤ v2y) ∨ (py = v2y ∧ v2y ≤ v1y) := by
  unfold Gen.ppcSkip; simp

theorem edgeStep_of_not_counted (e : Edge) (p : Pt) (h : counted e p = false) :
    edgeStep e p = .skip := by
  unfold edgeStep
  by_cases hin : Gen.ppcInRange p.2 e.1.2 e.2.2 = true
  · rw [if_pos hin, if_pos]
    rw [inRange_iff] at hin
    rw [← Bool.not_eq_true, counted_iff, not_or, not_and, not_and] at h
    rw [skip_iff]
    rcases hin with ⟨h1, h2⟩ | ⟨h1, h2⟩
    · exact Or.inl ⟨le_antisymm (not_lt.mp fun hl => h.1 hl h2) h1, h1.trans h2⟩
    · exact Or.inr ⟨le_antisymm (not_lt.mp fun hl => h.2 hl h1) h2, h2.trans h1⟩
  · rw [if_neg hin]

/-- The toggle condition `(v1y < v2y) == (c > 0)` for `c = a·d`, `d = v2y − v1y ≠ 0`, `a ≠ 0`. -/
theorem pos_iff_mul_pos_iff {a d : ℚ} (ha : a ≠ 0) (hd : d ≠ 0) : ((0 < d) ↔ 0 < a * d) ↔ 0 < a := by
  rcases lt_or_gt_of_ne hd with h | h
  · simp only [not_lt.mpr h.le, false_iff, mul_pos_iff, and_false, false_or, h, and_true, not_lt]
    exact ⟨fun h' => lt_of_le_of_ne h' ha.symm, le_of_lt⟩
  · simp only [h, true_iff, mul_pos_iff_of_pos_right h]

theorem edgeStep_of_counted (e : Edge) (p : Pt) (h : counted e p = true) :
    edgeStep e p = if xAt e p.2 = p.1 then .zero else if p.1 < xAt e p.2 then .toggle else .keep := by
  have hne := counted_ne e p h
  have h0 := h
  rw [counted_iff] at h
  unfold edgeStep
  have hin : Gen.ppcInRange p.2 e.1.2 e.2.2 = true :=
    (inRange_iff _ _ _).mpr (h.imp (fun h => ⟨h.1.le, h.2⟩) fun h => ⟨h.2, h.1.le⟩)
  have hs : ¬ Gen.ppcSkip p.2 e.1.2 e.2.2 = true := by
    rw [skip_iff]; rintro (⟨h1, h2⟩ | ⟨h1, h2⟩) <;> rcases h with h | h <;> linarith
  have hz : Gen.ppcIsZero (cross e p) = true ↔ xAt e p.2 = p.1 := by
    unfold Gen.ppcIsZero; rw [decide_eq_true_iff, cross_eq_zero_iff e p h0]
  rw [if_pos hin, if_neg hs]
  by_cases hx : xAt e p.2 = p.1
  · rw [if_pos (hz.mpr hx), if_pos hx]
  · have ht : Gen.ppcToggle e.1.2 e.2.2 (cross e p) = true ↔ p.1 < xAt e p.2 := by
      unfold Gen.ppcToggle
      rw [cross_eq e p hne, decide_eq_true_iff, decide_eq_decide, gt_iff_lt, ← sub_pos (a := e.2.2),
        pos_iff_mul_pos_iff (sub_ne_zero.mpr hx) (sub_ne_zero.mpr hne.symm), sub_pos]
    rw [if_neg (mt hz.mp hx), if_neg hx]
    by_cases hp : p.1 < xAt e p.2
    · rw [if_pos (ht.mpr hp), if_pos hp]
    · rw [if_neg (mt ht.mp hp), if_neg hp]

theorem counted_of_level (u v p : Pt) (hp : p.2 = v.2) : counted (u, v) p = decide (u.2 < v.2) := by
  rw [Bool.eq_iff_iff, counted_iff, decide_eq_true_iff]
  simp [hp]

theorem crosses_of_level (u v p : Pt) (hp : p.2 = v.2) :
    crosses (u, v) p = (decide (u.2 < v.2) && decide (p.1 < v.1)) := by
  unfold crosses
  rw [counted_of_level u v p hp]
  by_cases h : u.2 < v.2
  · have : xAt (u, v) p.2 = v.1 := by
      unfold xAt
      have : v.2 - u.2 ≠ 0 := by linarith
      simp only [hp]
      field_simp; ring
    rw [this]
  · simp [h]

/-! ### loop invariant, closed form -/

theorem rayLoop_cons (e : Edge) (es : List Edge) (p : Pt) (s : Bool) :
    rayLoop (e :: es) p s = if hitsLine e p then 0 else rayLoop es p (s != crosses e p) := by
  rw [rayLoop]
  by_cases hc : counted e p = true
  · rw [edgeStep_of_counted e p hc]
    unfold hitsLine crosses
    rw [hc]
    by_cases hx : xAt e p.2 = p.1
    · simp [hx, Gen.ppcRetZero]
    · by_cases hp : p.1 < xAt e p.2 <;> simp [hx, hp]
  · rw [Bool.not_eq_true] at hc
    rw [edgeStep_of_not_counted e p hc]
    simp [hitsLine, crosses, hc]

theorem rayLoop_eq (es : List Edge) (p : Pt) (s : Bool) :
    rayLoop es p s =
      if es.any (fun e => hitsLine e p) then 0
      else if (s != decide (es.countP (fun e => crosses e p) % 2 = 1)) then -1 else 1 := by
  induction es generalizing s with
  | nil =>
    -- `return -1 if inside else 1`: the source's flag `inside` is true while `p` counts as OUTSIDE
    cases s
    · rfl
    · rfl
  | cons e es ih =>
    have par : ∀ (c : Bool) (n : Nat), decide ((n + if c = true then 1 else 0) % 2 = 1) = (c != decide (n % 2 = 1)) := by
      intro c n
      cases c <;> rcases Nat.mod_two_eq_zero_or_one n with h | h <;> simp [h, Nat.add_mod]
    rw [rayLoop_cons, ih, List.any_cons, List.countP_cons, par, Bool.bne_assoc]
    cases hitsLine e p
    · rfl
    · rfl

/-- The source's flag `inside` starts `True` and the result is `-1 if inside else 1`: the flag means
    *outside*, whence `true != decide _`. -/
theorem classify_eq_spec (tol : ℚ) (poly : List Pt) (p : Pt) :
    classify tol poly p = spec tol poly p := by
  have par : ∀ (P : Prop) [Decidable P], (if (true != decide P) = true then (-1 : Int) else 1) = if P then 1 else -1 := by
    intro P _; by_cases h : P <;> simp [h]
  unfold classify spec crossings Gen.ppcRetBand Gen.ppcInitInside
  rw [rayLoop_eq, par]

theorem classify_range (tol : ℚ) (poly : List Pt) (p : Pt) :
    classify tol poly p = -1 ∨ classify tol poly p = 0 ∨ classify tol poly p = 1 := by
  rw [classify_eq_spec]; unfold spec
  split_ifs <;> simp

/-! ### closed segments; positive tolerance -/

def OnSegment (e : Edge) (p : Pt) : Prop :=
  ∃ t : ℚ, 0 ≤ t ∧ t ≤ 1 ∧ p.1 = e.1.1 + t * (e.2.1 - e.1.1) ∧ p.2 = e.1.2 + t * (e.2.2 - e.1.2)

theorem hitsLine_onSegment (e : Edge) (p : Pt) (h : hitsLine e p = true) : OnSegment e p := by
  unfold hitsLine at h
  simp only [Bool.and_eq_true, decide_eq_true_eq] at h
  obtain ⟨hc, hx⟩ := h
  have hne := counted_ne e p hc
  have hd : e.2.2 - e.1.2 ≠ 0 := sub_ne_zero.mpr (Ne.symm hne)
  rw [counted_iff] at hc
  refine ⟨(p.2 - e.1.2) / (e.2.2 - e.1.2), ?_, ?_, ?_, ?_⟩
  · rcases hc with hc | hc
    · exact div_nonneg (by linarith) (by linarith)
    · exact div_nonneg_of_nonpos (by linarith) (by linarith)
  · rcases hc with hc | hc
    · rw [div_le_one (by linarith)]; linarith
    · rw [div_le_one_of_neg (by linarith)]; linarith
  · rw [← hx]; unfold xAt; field_simp
  · field_simp; ring

theorem onSegment_dists (e : Edge) (p : Pt) (h : OnSegment e p) :
    rdist e.1 p + rdist e.2 p - rdist e.1 e.2 = 0 := by
  obtain ⟨t, h0, h1, hx, hy⟩ := h
  have e1 : sqDist e.1 p = t * t * sqDist e.1 e.2 := by unfold sqDist; rw [hx, hy]; ring
  have e2 : sqDist e.2 p = (1 - t) * (1 - t) * sqDist e.1 e.2 := by unfold sqDist; rw [hx, hy]; ring
  have ht0 : (0 : ℝ) ≤ (t : ℝ) := Rat.cast_nonneg.mpr h0
  have ht1 : (0 : ℝ) ≤ 1 - (t : ℝ) := sub_nonneg.mpr (by exact_mod_cast h1)
  unfold rdist
  rw [e1, e2]
  push_cast
  rw [Real.sqrt_mul (mul_self_nonneg _), Real.sqrt_mul_self ht0,
    Real.sqrt_mul (mul_self_nonneg _), Real.sqrt_mul_self ht1]
  ring

theorem onSegment_onBand (tol : ℚ) (htol : 0 < tol) (e : Edge) (p : Pt) (h : OnSegment e p) :
    onBand tol e p = true := by
  rw [onBand_iff, onSegment_dists e p h, abs_zero]
  exact_mod_cast htol

theorem any_onBand_iff (tol : ℚ) (poly : List Pt) (p : Pt) :
    (edges poly).any (fun e => onBand tol e p) = true ↔
      ∃ e ∈ edges poly, |rdist e.1 p + rdist e.2 p - rdist e.1 e.2| < (tol : ℝ) := by
  simp only [List.any_eq_true, onBand_iff]

/-- With a positive tolerance the `c == 0` exit of the ray loop is dead: a counted edge through `p`
    already has `p` in its band. -/
theorem classify_of_pos_tol (tol : ℚ) (htol : 0 < tol) (poly : List Pt) (p : Pt) :
    classify tol poly p = if (edges poly).any (fun e => onBand tol e p) then 0
      else if crossings poly p % 2 = 1 then 1 else -1 := by
  rw [classify_eq_spec]; unfold spec
  by_cases hb : (edges poly).any (fun e => onBand tol e p) = true
  · rw [if_pos hb, if_pos hb]
  · have hz : ¬ (edges poly).any (fun e => hitsLine e p) = true := fun hz => by
      obtain ⟨e, he, hh⟩ := List.any_eq_true.mp hz
      exact hb (List.any_eq_true.mpr ⟨e, he, onSegment_onBand tol htol e p (hitsLine_onSegment e p hh)⟩)
    rw [if_neg hb, if_neg hb, if_neg hz]

/-! ### rotation, reversal -/

theorem edgesFrom_concat (l : List Pt) (a x : Pt) :
    edgesFrom a (l ++ [x]) = edgesFrom a l ++ [(l.getLastD a, x)] := by
  induction l generalizing a with
  | nil => simp [edgesFrom]
  | cons b l ih => simp only [List.cons_append, edgesFrom, ih, List.getLastD_cons]

theorem edges_cons (h : Pt) (t : List Pt) : edges (h :: t) = (t.getLastD h, h) :: edgesFrom h t := by
  unfold edges; rw [List.getLast?_cons]; simp [edgesFrom]

theorem edges_concat (t : List Pt) (h : Pt) : edges (t ++ [h]) = edgesFrom h (t ++ [h]) := by
  unfold edges; rw [List.getLast?_concat]

theorem edges_rotate_one (h : Pt) (t : List Pt) : (edges (t ++ [h])).Perm (edges (h :: t)) := by
  rw [edges_concat, edgesFrom_concat, edges_cons]
  exact List.perm_append_singleton _ _

theorem edges_rotate (poly : List Pt) (k : Nat) : (edges (poly.rotate k)).Perm (edges poly) := by
  induction k generalizing poly with
  | zero => simp
  | succ k ih =>
    cases poly with
    | nil => simp
    | cons h t =>
      rw [List.rotate_cons_succ]
      exact (ih (t ++ [h])).trans (edges_rotate_one h t)

theorem edgesFrom_reverse (a x : Pt) (l : List Pt) :
    edgesFrom x (l.reverse ++ [a]) = ((edgesFrom a (l ++ [x])).map Prod.swap).reverse := by
  induction l generalizing a with
  | nil => rfl
  | cons b l ih =>
    rw [List.reverse_cons, edgesFrom_concat, List.getLastD_concat, ih b]
    simp [edgesFrom]

theorem edges_reverse (poly : List Pt) :
    (edges poly.reverse).Perm ((edges poly).map Prod.swap) := by
  cases poly with
  | nil => exact .refl _
  | cons h t =>
    rw [List.reverse_cons, edges_concat, edgesFrom_reverse, ← edges_concat]
    exact (List.reverse_perm _).trans ((edges_rotate_one h t).map _)

theorem onBand_swap (tol : ℚ) (e : Edge) (p : Pt) : onBand tol e.swap p = onBand tol e p := by
  rw [Bool.eq_iff_iff, onBand_iff, onBand_iff, Prod.fst_swap, Prod.snd_swap, rdist_comm e.2 e.1, add_comm]

theorem counted_swap (e : Edge) (p : Pt) : counted e.swap p = counted e p := by
  rw [Bool.eq_iff_iff, counted_iff, counted_iff]; exact or_comm

theorem xAt_swap (e : Edge) (y : ℚ) (h : e.1.2 ≠ e.2.2) : xAt e.swap y = xAt e y := by
  unfold xAt; simp only [Prod.fst_swap, Prod.snd_swap]
  have h1 : e.2.2 - e.1.2 ≠ 0 := sub_ne_zero.mpr (Ne.symm h)
  have h2 : e.1.2 - e.2.2 ≠ 0 := sub_ne_zero.mpr h
  field_simp
  ring

theorem counted_and_swap (e : Edge) (p : Pt) (f : ℚ → Bool) :
    (counted e.swap p && f (xAt e.swap p.2)) = (counted e p && f (xAt e p.2)) := by
  rw [counted_swap]
  by_cases hc : counted e p = true
  · rw [xAt_swap e p.2 (counted_ne e p hc)]
  · simp [hc]

theorem crosses_swap (e : Edge) (p : Pt) : crosses e.swap p = crosses e p :=
  counted_and_swap e p fun x => decide (p.1 < x)

theorem hitsLine_swap (e : Edge) (p : Pt) : hitsLine e.swap p = hitsLine e p :=
  counted_and_swap e p fun x => decide (x = p.1)

theorem spec_congr (tol : ℚ) (poly poly' : List Pt) (p : Pt)
    (h : (edges poly').Perm (edges poly) ∨ (edges poly').Perm ((edges poly).map Prod.swap)) :
    spec tol poly' p = spec tol poly p := by
  unfold spec crossings
  rcases h with h | h
  · rw [h.any_eq, h.any_eq, h.countP_eq]
  · rw [h.any_eq, h.any_eq, h.countP_eq]
    simp only [List.any_map, List.countP_map, Function.comp_def, onBand_swap, hitsLine_swap, crosses_swap]

end GHEVerif.Polygon
