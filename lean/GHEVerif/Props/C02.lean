/-
  C02 — Height bounds, borehole cap and the unmet-design policy are honoured.
  Cap, unmet-design policy and exception types for `bisect1D` (Bisection1D.search); the cap for the nested
  searches; the policy for the RowWise search; the height window for `solveRoot` and `find_design`.
-/
import GHEVerif.Lemmas.Search
import GHEVerif.Lemmas.SearchNested
import GHEVerif.Lemmas.SearchRowWise
import GHEVerif.Lemmas.Pipeline

namespace GHEVerif.C02
open GHEVerif GHEVerif.Search GHEVerif.Report GHEVerif.Pipeline

/-- Every selection of the search lies at or below the upper index fixed by the cap filter. -/
theorem selected_le_upper (counts : List Nat) (E : Nat → Rat → Rat) (cfg : Cfg)
    (k : Nat) (h : Rat) (p : Path) (tr : List (Nat × Rat))
    (hsel : bisect1D counts E cfg = (.selected k h p, tr)) :
    ∃ xr, upperIndex counts cfg.cap = .ok xr ∧ k ≤ xr := by
  obtain ⟨xr, hu, hle, _⟩ := bisect1D_selected hsel
  exact ⟨xr, hu, hle⟩

/-- `max_boreholes` is honoured: with candidate counts in non-decreasing order (C03), every
    selected field has fewer boreholes than the cap (the code's filter is strict). -/
theorem cap_respected (counts : List Nat) (E : Nat → Rat → Rat) (cfg : Cfg) (c : Nat)
    (hcap : cfg.cap = some c)
    (hsorted : ∀ i j, i ≤ j → j < counts.length → counts.getD i 0 ≤ counts.getD j 0)
    (k : Nat) (h : Rat) (p : Path) (tr : List (Nat × Rat))
    (hsel : bisect1D counts E cfg = (.selected k h p, tr)) :
    counts.getD k 0 < c := by
  obtain ⟨xr, hu, hle⟩ := selected_le_upper counts E cfg k h p tr hsel
  obtain ⟨hlen, hc⟩ := upperIndex_ok hu
  exact lt_of_le_of_lt (hsorted k xr hle hlen) (hc c hcap)

/-- Loads too large: the smallest candidate fails at both heights and the largest allowed one fails
    at maximum height.  The search raises `ValueError` unless the user asked to continue, in which
    case it returns the largest allowed candidate at maximum height. -/
theorem unmet_too_large (counts : List Nat) (E : Nat → Rat → Rat) (cfg : Cfg) (xr : Nat)
    (hu : upperIndex counts cfg.cap = .ok xr)
    (h0 : 0 < E 0 cfg.minH) (h1 : 0 < E 0 cfg.maxH) (h2 : 0 < E xr cfg.maxH) :
    bisect1D counts E cfg =
      (if cfg.cont then .selected xr cfg.maxH .tooBigCont else .valueError, tr0 cfg xr) :=
  bisect1D_of_pre_inl hu (pre_of_all_pos h0 h1 h2)

/-- Loads too small: the smallest candidate over-satisfies the limits even at minimum height (and
    the largest allowed one is feasible as well).  `ValueError` unless the user asked to continue,
    in which case the smallest candidate at minimum height is returned. -/
theorem unmet_too_small (counts : List Nat) (E : Nat → Rat → Rat) (cfg : Cfg) (xr : Nat)
    (hu : upperIndex counts cfg.cap = .ok xr)
    (h0 : E 0 cfg.minH < 0) (h1 : E 0 cfg.maxH < 0) (h2 : E xr cfg.maxH < 0) :
    bisect1D counts E cfg =
      (if cfg.cont then .selected 0 cfg.minH .tooSmallCont else .valueError, tr0 cfg xr) :=
  bisect1D_of_pre_inl hu (pre_of_all_neg h0 h1 h2)

/-- `max_boreholes` in the nested searches: the field returned by `Bisection2D` / `BisectionZD` has
    fewer boreholes than the cap whenever the chosen inner list is in non-decreasing order. -/
theorem cap_respected_2D (nc : List (List Nat)) (E2 : Nat → Nat → Rat → Rat) (cfg : Cfg) (c : Nat)
    (hcap : cfg.cap = some c) (l k : Nat) (hh : Rat) (tr : Trace2)
    (h : bisect2D nc E2 cfg = (.selected l k hh, tr))
    (hsorted : ∀ i j, i ≤ j → j < (nc.getD l []).length → (nc.getD l []).getD i 0 ≤ (nc.getD l []).getD j 0) :
    (nc.getD l []).getD k 0 < c := by
  obtain ⟨_, p, tr', h1⟩ := bisect2D_selected h
  exact cap_respected _ _ cfg c hcap hsorted k hh p tr' h1

theorem cap_respected_ZD (nc : List (List Nat)) (E2 : Nat → Nat → Rat → Rat) (sz : Nat → Nat → Rat) (cfg : Cfg)
    (c : Nat) (hcap : cfg.cap = some c) (l k : Nat) (hh : Rat) (tr : Trace2)
    (h : bisectZD nc E2 sz cfg = (.selected l k hh, tr))
    (hsorted : ∀ i j, i ≤ j → j < (nc.getD l []).length → (nc.getD l []).getD i 0 ≤ (nc.getD l []).getD j 0) :
    (nc.getD l []).getD k 0 < c := by
  obtain ⟨_, _, ⟨h1, p, tr', hs⟩, _⟩ := bisectZD_selected h
  exact cap_respected _ _ cfg c hcap hsorted k h1 p tr' hs

/-- The code's last `else: pass` arm before the loop cannot be taken: the bisection starts only
    from a genuine bracket between candidate 0 and the largest allowed candidate. -/
theorem else_pass_unreachable (E : Nat → Rat → Rat) (cfg : Cfg) (xr : Nat) (ls : Int)
    (h : pre E cfg xr = .inr ls) :
    (E 0 cfg.maxH < 0 ∧ 0 < E xr cfg.maxH) ∨ (E xr cfg.maxH < 0 ∧ 0 < E 0 cfg.maxH) :=
  pre_inr h

/-- Exception types.  Without any excess of exactly zero (at every candidate and height: more than is
    needed, see `Search.bisect1D_pyError`) and with a non-empty candidate list, `Bisection1D.search`
    ends with a selection or with `ValueError`.  (Since the F17 repair this includes a cap at or below the
    smallest candidate.) -/
theorem only_value_error (counts : List Nat) (E : Nat → Rat → Rat) (cfg : Cfg)
    (hnz : ∀ i h, E i h ≠ 0) (hne : counts ≠ []) :
    ∀ e, (bisect1D counts E cfg).1 ≠ .pyError e := by
  intro e h
  rcases bisect1D_pyError h with ⟨_, hc, _⟩ | ⟨_, xr, _, hz | ⟨c, _, hz⟩⟩
  · exact hne hc
  · exact hnz 0 _ hz
  · exact hnz c _ hz

/-- A cap that no candidate satisfies ends the search with `ValueError` (F17 repair), never with
    an IndexError. -/
theorem cap_too_small_value_error (counts : List Nat) (E : Nat → Rat → Rat) (cfg : Cfg) (c : Nat)
    (hcap : cfg.cap = some c) (hall : ∀ i < counts.length, ¬ counts.getD i 0 < c) :
    bisect1D counts E cfg = (.valueError, []) := by
  cases hu : upperIndex counts cfg.cap with
  | error e =>
    rw [bisect1D_of_upper_error E hu]
    rcases upperIndex_error hu with ⟨_, _, h⟩ | ⟨h, _⟩
    · rw [hcap] at h; cases h
    · rw [if_pos h]
  | ok xr =>
    obtain ⟨h1, h2⟩ := upperIndex_ok hu
    exact absurd (h2 c hcap) (hall xr h1)

/-- Whatever happens, the only other exception types the search can raise are `ZeroDivisionError`
    (an excess of exactly zero) and `IndexError` (an empty candidate list). -/
theorem exception_kinds (counts : List Nat) (E : Nat → Rat → Rat) (cfg : Cfg) (e : PyErr)
    (h : (bisect1D counts E cfg).1 = .pyError e) : e = .zeroDiv ∨ e = .indexError := by
  rcases bisect1D_pyError h with ⟨h, _⟩ | ⟨h, _⟩
  · exact Or.inr h
  · exact Or.inl h

/-! ### RowWise search -/

/-- RowWise unmet policy: when both the densest and the sparsest field fail at maximum height the
    search raises `ValueError` unless the user asked to continue, in which case it returns the
    densest field (flagged as an escape). -/
theorem rowwise_unmet_too_large (Es : Rat → Rat) (nb : Rat → Nat) (szs : Rat → Rat) (E1 : Rat)
    (Esub : Nat → Rat) (c : RWCfg) (h1 : 0 < Es c.start) (h2 : 0 < Es c.stop) :
    (rowwiseSearch Es nb szs E1 Esub c).1 =
      (if c.cont then .selected (.atSpacing c.start) true else .valueError) := by
  rcases rowwiseSearch_cases Es nb szs E1 Esub c with ⟨_, _, e⟩ | ⟨a, _⟩ | ⟨a, _⟩ | ⟨n, _⟩
  · exact e
  · exact absurd a (lt_asymm h1)
  · exact absurd a (lt_asymm h1)
  · exact absurd ⟨h1, h2⟩ n

/-- The dense field fails but the sparse one passes (excess not monotone in the spacing) or has an
    excess of exactly zero: the search reports an error (`ValueError`), it does not return a
    design. -/
theorem rowwise_inconsistent_ends (Es : Rat → Rat) (nb : Rat → Nat) (szs : Rat → Rat) (E1 : Rat)
    (Esub : Nat → Rat) (c : RWCfg) (h1 : 0 < Es c.start) (h2 : Es c.stop ≤ 0) :
    (rowwiseSearch Es nb szs E1 Esub c).1 = .valueError := by
  rcases rowwiseSearch_cases Es nb szs E1 Esub c with ⟨_, b, _⟩ | ⟨a, _⟩ | ⟨a, _⟩ | ⟨_, _, _, e⟩
  · exact absurd b (not_lt.mpr h2)
  · exact absurd a (lt_asymm h1)
  · exact absurd a (lt_asymm h1)
  · exact e

/-- Both end fields pass: the RowWise search always returns a design (a sub-field of the sparsest
    field, a single borehole, or the sparsest field itself since the F5 repair) — never an error. -/
theorem rowwise_both_pass_returns_design (Es : Rat → Rat) (nb : Rat → Nat) (szs : Rat → Rat) (E1 : Rat)
    (Esub : Nat → Rat) (c : RWCfg) (h1 : Es c.start < 0) (h2 : Es c.stop < 0) :
    ∃ f, (rowwiseSearch Es nb szs E1 Esub c).1 = .selected f false ∧
      (f = .single ∨ f = .atSpacing c.stop ∨ ∃ n, f = .sub n) := by
  rcases rowwiseSearch_cases Es nb szs E1 Esub c with ⟨a, _⟩ | ⟨_, b, _⟩ | ⟨_, _, f, e, _, hf⟩ | ⟨_, _, n, _⟩
  · exact absurd a (lt_asymm h1)
  · exact absurd b (lt_asymm h2)
  · exact ⟨f, e, hf⟩
  · exact absurd ⟨h2, h1⟩ n

/-- Height window: in all three branches of `solve_root` the returned height lies in
    `[lower, upper]` (Brent's iterate is inside the bracket by its contract). -/
theorem height_in_window (x : Rat) (f : Rat → Rat) (lo hi brent : Rat) (hle : lo ≤ hi)
    (hb : lo ≤ brent ∧ brent ≤ hi) (kind : RootKind) (H : Rat)
    (h : solveRoot x f lo hi brent = .ok (kind, H)) (hk : kind ≠ .unchanged) : lo ≤ H ∧ H ≤ hi := by
  rcases solveRoot_ok h with ⟨_, rfl, _⟩ | ⟨_, rfl, _⟩ | ⟨_, rfl, _⟩
  exacts [⟨le_refl _, hle⟩, ⟨hle, le_refl _⟩, hb]

/-- `solve_root`'s last branch hands back the starting value.  (No input reaches that branch —
    `solveRoot_eq` — so the hypothesis is never met.) -/
theorem solveRoot_unchanged (x : Rat) (f : Rat → Rat) (lo hi brent H : Rat)
    (h : solveRoot x f lo hi brent = .ok (.unchanged, H)) : H = x :=
  absurd rfl (solveRoot_ne_unchanged h)

/-- The height window at the level of `GHEManager.find_design`, for EVERY design method and every
    outcome of the search (ordinary selection or `continue_if_design_unmet` fallback, feasible or not):
    whenever a design is returned, its height lies in `[min_height, max_height]` and the stored
    temperatures were computed at it — provided only that Brent's answer stays inside its bracket. -/
theorem find_design_height_in_window {α β : Type} (search : SearchRes α β) (E : α → Rat → Rat) (minH maxH : Rat)
    (f : α → Rat → Rat) (its : α → List Rat) (brent : α → Rat) (d : DesignG α β)
    (hres : findDesignG search E minH maxH f its brent = .design d)
    (hwin : minH ≤ maxH) (hb : ∀ k, minH ≤ brent k ∧ brent k ≤ maxH) :
    minH ≤ d.st.H ∧ d.st.H ≤ maxH ∧ d.st.simAt = some d.st.H := by
  obtain ⟨_, hsim, kind, hk⟩ := findDesignG_design hres
  obtain ⟨h2, h3⟩ := height_in_window _ _ minH maxH _ hwin (hb d.field) kind d.st.H hk (solveRoot_ne_unchanged hk)
  exact ⟨h2, h3, hsim⟩

/-- Non-vacuity of the unmet policy: three candidates that all fail, flag off → ValueError;
    flag on → the largest candidate below the cap (index 1 for cap 5) at max height. -/
example :
    (bisect1D [1, 4, 9] (fun _ _ => 2) { cap := some 5, cont := false, maxIter := 15, minH := 60, maxH := 135 }).1
      = .valueError ∧
    (bisect1D [1, 4, 9] (fun _ _ => 2) { cap := some 5, cont := true, maxIter := 15, minH := 60, maxH := 135 }).1
      = .selected 1 135 .tooBigCont := by decide +kernel

end GHEVerif.C02
