/-
  C06 — Hybrid time-step loads conserve every month's ground energy.

  Model/Hybrid.lean (ghedesigner/ground_loads.py, single-year path): `emitMonth y r ipf i` = the
  `(load, end hour)` entries `process_month_loads` appends for simulated month `i` from the record `r`,
  through the *translated* calendar `Gen.monthdays / firstMonthHour / lastMonthHour`; `processMonthLoads` the
  whole sequence; `splitByMonth` = `split_heat_and_cool` + `split_loads_by_month`.  Specification side
  (Lemmas/HybridMonth.lean, HybridCal.lean): `integral`, `lastHour`, `lmh`, `mdays`.

  The monthly arrays are arbitrary (not only those that come from a profile): that the records
  `monthlyStage` builds from a profile meet `MonthOK` is not proved, and (3) is not composed with (1)/(2).
  The two halves also use the code's two calendars: `split_totals` cuts the profile with `calDays y`
  (`calendar.monthrange`, Gregorian), the sequence theorems place month ends with `lmh y` (`monthdays`,
  `year % 4`); the two differ from March on for y = 1900, 2100, ….

  DESIGN.md C06(1) `month_energy`: "for all monthly arrays with room in the month the month's
  entries integrate to cl_i − hl_i (+ δ·rate·a_i)".  On the repaired tree (fix 53c648d: only the
  durations of emitted pulses are subtracted from the averaging period) the δ term is gone and the
  identity is exact — but it still needs one hypothesis the design did not have (`MonthOK.noclamp`):
  when both pulses fall on the same day and a duration exceeds twice the noon hour (only possible on
  1 January, duration > 26 h) `first_hour_*_peak` is clamped to 1e-6 and the two pulses no longer
  abut.  `month_energy_fails_when_clamped` proves the unconditional statement false on a witness
  (reproduced on the real implementation by harness/c06.py, known finding same-day-pulse-clamped);
  `month_energy` is the full-strength statement for every month whose two pulses are on different
  days or that has at most one pulse; `month_energy_partial` covers the shared-day case under the
  no-clamp hypothesis.  The fixed defect (zero-peak direction with a real duration) is kept as the
  regression `zero_peak_month_conserved`.
-/
import GHEVerif.Lemmas.HybridHorizon
import GHEVerif.Lemmas.HybridSplit
import Mathlib.Tactic.NormNum

namespace GHEVerif.C06
open GHEVerif GHEVerif.Hybrid

/-! ### (1) one month -/

/-- Month energy for every month that does not have both pulses on one day (the case of
    `month_energy_partial` in which `MonthOK.noclamp` holds vacuously): the month's entries exist, end at
    `last_month_hour i`, and their signed integral from `last_month_hour (i-1)` is exactly `cl − hl`. -/
theorem month_energy (y : Int) (r : MonthRec) (ipf : Bool) (i : Int) (hi : 1 ≤ i)
    (hp : 0 ≤ r.pcl ∧ 0 ≤ r.phl) (hd : 0 ≤ r.dcl ∧ 0 ≤ r.dhl)
    (hroom : ipf = true → pulseHours r ≠ 24 * (mdays y i : Rat))
    (hdays : r.dayc ≠ r.dayh ∨ r.pcl = 0 ∨ r.phl = 0) :
    ∃ segs, emitMonth y r ipf i = .ok segs ∧
      integral (lmh y (i - 1) : Int) segs = r.cl - r.hl ∧
      lastHour (lmh y (i - 1) : Int) segs = (lmh y i : Int) := by
  apply month_energy_ok y r ipf i hi
  refine ⟨hp, hd, hroom, ?_⟩
  intro _ hsame hc hh
  rcases hdays with h | h | h
  · exact absurd hsame h
  · rw [h] at hc; exact absurd hc (lt_irrefl _)
  · rw [h] at hh; exact absurd hh (lt_irrefl _)

/-- Month energy under `MonthOK` (`Hybrid.month_energy_ok`): the general statement, of which `month_energy`
    is a case.  Beyond `month_energy` it covers months whose two pulses share the day, provided neither pulse
    start is clamped (`MonthOK.noclamp`: `dur ≤ 2·noon`). -/
theorem month_energy_partial (y : Int) (r : MonthRec) (ipf : Bool) (i : Int) (hi : 1 ≤ i)
    (h : MonthOK y r ipf i) :
    ∃ segs, emitMonth y r ipf i = .ok segs ∧
      integral (lmh y (i - 1) : Int) segs = r.cl - r.hl ∧
      lastHour (lmh y (i - 1) : Int) segs = (lmh y i : Int) :=
  month_energy_ok y r ipf i hi h

/-! ### the design's statement fails: witnesses -/

/-- Witness (a): January, both peaks on day 0, rejection duration 40 h (> 26 h). -/
def wClamp : MonthRec := { cl := 2000, hl := 30, pcl := 50, phl := 30, dayc := 0, dayh := 0, dcl := 40, dhl := 1 }

/-- The design's `month_energy` (hypothesis `dur_cl + dur_hl < 24·monthdays` only) is false of the
    code: positive peaks, positive durations with room in the month, yet the month integrates to
    something else than `cl − hl` (2180.00003 instead of 1970). -/
theorem month_energy_fails_when_clamped :
    ∃ (r : MonthRec) (segs : List (Rat × Rat)),
      (0 < r.pcl ∧ 0 < r.phl ∧ 0 < r.dcl ∧ 0 < r.dhl ∧ r.dcl + r.dhl < 24 * (mdays 2019 1 : Rat)) ∧
      emitMonth 2019 r true 1 = .ok segs ∧
      integral (lmh 2019 (1 - 1) : Int) segs ≠ r.cl - r.hl :=
  ⟨wClamp, _, by decide +kernel, emitMonth_runs 2019 wClamp true 1 (by decide) (by intro _; decide +kernel), by decide +kernel⟩

/-- A two-day window: 10 kW through the last day of the previous month, nothing on day 0. -/
def wWindow : List Rat := List.replicate 24 10 ++ List.replicate 24 0

/-- Witness (b): a direction whose monthly peak is 0 gets a 24 h duration, not the placeholder,
    when the previous month ends with load (here for the step response `G k = k`, `2πk = 1`,
    `R_b = 0`): `find_peak_durations` swaps the zero peak for the two-day maximum. -/
theorem zero_peak_direction_gets_real_duration :
    durationOf (fun k => (k : Rat)) 1 0 wWindow 0 0 = .ok (.val 24) ∧ (24 : Rat) ≠ Gen.hybridDelta :=
  ⟨by decide +kernel, by norm_num [Gen.hybridDelta]⟩

/-- February after such a month: no rejection (peak 0) but a 24 h rejection duration. -/
def wZeroPeak : MonthRec := { cl := 0, hl := 3364, pcl := 0, phl := 9, dayc := 0, dayh := 4, dcl := 24, dhl := 1 }

/-- Regression of the repaired defect (fix 53c648d): the month used to integrate to
    `cl − hl + rate · 24 h` (−3488 instead of −3364 kWh on the implementation); the pulse-less
    direction's duration is no longer subtracted from the averaging period and the month conserves
    its energy exactly. -/
theorem zero_peak_month_conserved :
    ∃ segs, emitMonth 2019 wZeroPeak true 2 = .ok segs ∧
      integral (lmh 2019 (2 - 1) : Int) segs = wZeroPeak.cl - wZeroPeak.hl := by
  obtain ⟨segs, e1, e2, _⟩ := month_energy 2019 wZeroPeak true 2 (by norm_num) (by simp [wZeroPeak]) (by simp [wZeroPeak])
    (by intro _; decide +kernel) (Or.inl (by simp [wZeroPeak]))
  exact ⟨segs, e1, e2⟩

/-! ### (2) the horizon -/

/-- Total energy of the sequence: for every horizon `start ≤ … ≤ end_` (any number of months) whose
    months satisfy `MonthOK`, the sequence exists and its integral from hour 0 is the sum of the
    months' net loads (year-1 values, replicated). -/
theorem horizon_energy_partial (y : Int) (base : List MonthRec) (hlen : base.length = 13)
    (start end_ : Int) (hs : 1 ≤ start) (hs' : start ≤ 13) (he : start - 1 ≤ end_)
    (hok : ∀ i, start ≤ i → i ≤ end_ → MonthOK y (recAt base i) (ipfFlag start end_ i) i) :
    ∃ seq, processMonthLoads y base start end_ = .ok seq ∧
      integral 0 seq = ((pyRange start (end_ + 1)).map (fun i =>
        (recAt base i).cl - (recAt base i).hl)).sum :=
  horizon_core y base hlen start end_ hs hs' he hok

theorem recAt_monthIndex (base : List MonthRec) (i : Int) : recAt base (monthIndex i) = recAt base i := by
  unfold recAt
  obtain ⟨a, b⟩ := monthIndex_range i
  rw [monthIndex_small _ a b]

/-- `n` whole years from month 1 carry exactly `n ×` the annual net load. -/
theorem horizon_energy_years_partial (y : Int) (base : List MonthRec) (hlen : base.length = 13) (n : Nat)
    (hok : ∀ i, 1 ≤ i → i ≤ 12 * (n : Int) → MonthOK y (recAt base i) (ipfFlag 1 (12 * n) i) i) :
    ∃ seq, processMonthLoads y base 1 (12 * n) = .ok seq ∧
      integral 0 seq = (n : Rat) * ((pyRange 1 13).map (fun m => (recAt base m).cl - (recAt base m).hl)).sum := by
  obtain ⟨seq, h1, h3⟩ := horizon_core y base hlen 1 (12 * n) (le_refl _) (by norm_num) (by omega) hok
  refine ⟨seq, h1, ?_⟩
  rw [h3]
  exact sum_years (fun i => (recAt base i).cl - (recAt base i).hl) (fun i => by simp only [recAt_add12]) n

/-! ### (3) the monthly totals come from the profile -/

/-- `split_loads_by_month`: for every profile on which it does not raise, there are 13 entries and for
    each month `m = 1..12` rejection total minus extraction total is minus the sum of the month's
    hourly values (W, extraction positive) over 1000. -/
theorem split_totals (y : Int) (raw : List Rat) (stats : List MonthStat)
    (h : splitByMonth y raw = .ok stats) :
    stats.length = 13 ∧ ∀ m : Nat, 1 ≤ m → m ≤ 12 →
      (stats.getD m MonthStat.null).cl - (stats.getD m MonthStat.null).hl =
        -(pySlice raw (hoursBefore (calDays y).tail (m - 1))
            (Gen.HRS_IN_DAY * (calDays y).tail.getD (m - 1) 0).toNat).sum / 1000 := by
  obtain ⟨ms, h1, h⟩ := Py.bind_eq_ok.mp h
  cases h
  obtain ⟨l1, l2⟩ := splitAux_spec h1
  have hl : (calDays y).tail.length = 12 := by simp [calDays]
  refine ⟨by simp [l1, hl], ?_⟩
  intro m m1 m12
  obtain ⟨k, rfl⟩ : ∃ k, m = k + 1 := ⟨m - 1, by omega⟩
  obtain ⟨a, b, _, _⟩ := statOf_totals (l2 k (by omega) (by omega))
  rw [List.getD_cons_succ, Nat.add_sub_cancel, List.getD_eq_getElem _ _ (by omega), List.getD_eq_getElem _ _ (by omega),
    a, b, Nat.zero_add, pySlice_map, pySlice_map, sum_rej_sub_ext]

/-! ### non-vacuity and regression examples -/

/-- The F1 regression witness (heating-only, 1 kW base, 5 kW at hour 5 of the month: extraction
    peak on day 0 shared with an absent rejection peak).  Before the repair January integrated to
    −800 kWh; now the record meets the hypotheses of `month_energy`: exactly −748 kWh. -/
def wF1 : MonthRec := { cl := 0, hl := 748, pcl := 0, phl := 5, dayc := 0, dayh := 0, dcl := Gen.hybridDelta, dhl := 1 }

example : ∃ segs, emitMonth 2019 wF1 true 1 = .ok segs ∧ integral (lmh 2019 (1 - 1) : Int) segs = -748 := by
  obtain ⟨segs, e1, e2, _⟩ := month_energy 2019 wF1 true 1 (by norm_num) (by simp [wF1])
    (by simp only [wF1]; exact ⟨le_of_lt delta_pos, by norm_num⟩)
    (by intro _; decide +kernel) (Or.inr (Or.inl rfl))
  exact ⟨segs, e1, by rw [e2]; simp [wF1]⟩

/-- The regression itself, evaluated: the entries of January are
    average (−1 kW) → noon, pulse −5 kW for 1 h, average → hour 744 (no pulse from hour 0). -/
example : emitMonth 2019 wF1 true 1 = .ok [(-1, 13), (-5, 14), (-1, 744)] := by decide +kernel

/-- An Atlanta-like month (both peaks, different days) satisfies the hypotheses: exact conservation. -/
def wBoth : MonthRec := { cl := 9000, hl := 1200, pcl := 180, phl := 60, dayc := 17, dayh := 3, dcl := 6, dhl := 2 }

example : ∃ segs, emitMonth 2019 wBoth true 7 = .ok segs ∧ integral (lmh 2019 (7 - 1) : Int) segs = 7800 := by
  obtain ⟨segs, e1, e2, _⟩ := month_energy 2019 wBoth true 7 (by norm_num) (by simp [wBoth]) (by simp [wBoth])
    (by intro _; decide +kernel) (Or.inl (by simp [wBoth]))
  exact ⟨segs, e1, by rw [e2]; simp only [wBoth]; norm_num⟩

/-- A whole-year base satisfying every hypothesis of `horizon_energy_years_partial` for 2 years. -/
def wBase : List MonthRec := MonthRec.null :: List.replicate 12 wBoth

example : ∃ seq, processMonthLoads 2019 wBase 1 (12 * (2 : Nat)) = .ok seq ∧ integral 0 seq = 2 * (12 * 7800) := by
  have hrec : ∀ i, recAt wBase i = wBoth := recAt_cons_replicate _ _
  obtain ⟨seq, h1, h2⟩ := horizon_energy_years_partial 2019 wBase rfl 2 (by
      intro i _ _
      rw [hrec]
      refine ⟨by simp [wBoth], by simp [wBoth], monthRuns_of_lt (by norm_num [pulseHours, wBoth]), ?_⟩
      intro _ hd; simp [wBoth] at hd)
  refine ⟨seq, h1, ?_⟩
  rw [h2]
  simp only [hrec, wBoth]
  have : (pyRange 1 13).length = 12 := by simp [pyRange]
  rw [List.map_const', List.sum_replicate, this]; norm_num

/-- `split_totals` is not vacuous: a constant 1 kW extraction profile of 8760 h splits without raising. -/
example : ∃ stats, splitByMonth 2019 (List.replicate 8760 1000) = .ok stats ∧
    (stats.getD 2 MonthStat.null).cl - (stats.getD 2 MonthStat.null).hl = -672 := by
  obtain ⟨stats, h⟩ := splitByMonth_ok 2019 (List.replicate 8760 1000) (by rw [List.length_replicate]; decide)
  refine ⟨stats, h, ?_⟩
  rw [(split_totals 2019 _ stats h).2 2 (by norm_num) (by norm_num),
    show hoursBefore (calDays 2019).tail (2 - 1) = 744 by decide,
    show (Gen.HRS_IN_DAY * (calDays 2019).tail.getD (2 - 1) 0).toNat = 672 by decide]
  simp only [pySlice, List.drop_replicate, List.take_replicate, List.sum_replicate]
  norm_num

end GHEVerif.C06
