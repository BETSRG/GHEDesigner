/-
  C18 — Command-line exit status and validation verdict reflect the outcome.

  Property theorems only.  `Gen.cliPaths` (every path through `run_manager_from_cli`),
  `Gen.validators` (which validator runs on which section, what it upper-cases,
  which schema it applies), `Gen.worker` and the schemas are regenerated from /repo on every
  check; `Cli.run` / `Config.validateInputFile` / `Config.worker` interpret them.

  Quantifiers: every invocation the click parser can hand to the callback (`--validate-only`
  on/off, any `--convert` value or none, output directory given or not), every input file
  content (any JSON value, or not JSON at all), every outcome of the design run (each of its
  three steps may raise).  What click does before the callback (usage errors exit 2) is `Cli.run`'s assumption;
  `Gen.cliParams` is read by nothing.

  `--convert IDF` exits 0 without reading the input file or writing outputs (`exit_zero_iff_success`, route (b)): the
  property's "exits zero only when the output files were written" holds of design runs only.
-/
import GHEVerif.Lemmas.Config
import GHEVerif.Props.C17

namespace GHEVerif.C18
open GHEVerif GHEVerif.Config GHEVerif.Gen GHEVerif.Cli

/-- The callback ends every path with `exit(0)`, `exit(1)` or `exit(<worker status>)`: no path
    `return`s a status or falls off the end (click would discard it and exit 0 — finding F2). -/
theorem every_path_exits_with_its_status :
    Gen.cliPaths.all (fun p => p.exit = "0" || p.exit = "1" || isWorkerCall p.exit) = true := by
  decide +kernel

/-- `validate_input_file` runs one validator on the whole file and one on each of the nine
    sections the file-structure schema requires — `loads` included (finding F2, third part). -/
theorem validators_cover_all_sections :
    Gen.validators.map (·.sect) =
      ["", "fluid", "grout", "soil", "pipe", "borehole", "simulation", "geometric_constraints", "design", "loads"] ∧
    Gen.fileStructureSchema.required.filter (· ≠ "version") = (Gen.validators.map (·.sect)).filter (· ≠ "") := by
  decide +kernel

/-- `exit_zero_iff_success`: the process exits 0 exactly when
    (a) `--validate-only` and the file is valid, or
    (b) `--convert IDF` and the conversion did not raise, or
    (c) neither flag (an empty `--convert` counts as none), an output directory, and the worker returned 0 — only
        after `write_output_files` ran. -/
theorem exit_zero_iff_success (vo : Bool) (cv : Option String) (od : Bool) (w : World) :
    processExit (.call vo cv od) w = 0 ↔
      (vo = true ∧ validateFile w = .ok 0) ∨
      (vo = false ∧ cv = some "IDF" ∧ w.idfRaises = false) ∨
      (vo = false ∧ convertTruthy cv = false ∧ od = true ∧
        ∃ s, workerFile w = .ok (0, s) ∧ s.ran.contains "write_output_files" = true) := by
  rw [callback_exit_zero_iff]
  refine or_congr_right (or_congr_right (and_congr_right fun _ => and_congr_right fun _ => and_congr_right fun _ =>
    exists_congr fun s => ?_))
  exact (and_iff_left_of_imp fun hs => (workerFile_zero_outputs w s hs).1).symm

/-- A design run that exits 0 has validated its input, was given an output directory, and none of its three
    steps raised. -/
theorem run_exit_zero_means_outputs (cv : Option String) (od : Bool) (w : World) (hc : convertTruthy cv = false)
    (h : processExit (.call false cv od) w = 0) :
    validateFile w = .ok 0 ∧ od = true ∧ w.raisesAt "find_design" = false ∧ w.raisesAt "prepare_results" = false ∧
      w.raisesAt "write_output_files" = false := by
  rw [callback_exit_zero_iff] at h
  rcases h with h | h | ⟨_, _, h3, s, hs⟩
  · cases h.1
  · have := h.2.1; subst this; simp [convertTruthy] at hc
  · exact ⟨workerFile_zero_valid w s hs, h3, (workerFile_zero_outputs w s hs).2⟩

/-- `invalid_nonzero`: an input that does not validate (error count ≠ 0, an exception, or not
    JSON) gives a non-zero exit status, with or without `--validate-only` or an
    output directory (only `--convert`, which reads no input file, is exempt). -/
theorem invalid_nonzero (vo : Bool) (cv : Option String) (od : Bool) (w : World) (hbad : validateFile w ≠ .ok 0)
    (hc : vo = true ∨ convertTruthy cv = false) : processExit (.call vo cv od) w ≠ 0 := by
  intro h
  rw [callback_exit_zero_iff] at h
  rcases h with h | h | ⟨_, _, _, s, hs⟩
  · exact hbad h.2
  · rcases hc with hc | hc
    · rw [h.1] at hc; cases hc
    · have := h.2.1; subst this; simp [convertTruthy] at hc
  · exact hbad (workerFile_zero_valid w s hs)

/-- `unsupported_option_nonzero`: an unsupported conversion format and a missing output directory exit 1 (paths of
    `Gen.cliPaths`).  That a usage error exits 2 is click's behaviour as `Cli.run` assumes it, restated. -/
theorem unsupported_option_nonzero (c : String) (od : Bool) (w : World) (h0 : c ≠ "") (hi : c ≠ "IDF") :
    processExit (.call false (some c) od) w = 1 ∧ processExit (.call false none false) w = 1 ∧
    processExit .usageError w = 2 := by
  refine ⟨?_, ?_, rfl⟩
  · simp [cli_eval, h0, hi]
  · simp [cli_eval]

/-- `verdict_iff_all_sections`: `validate_input_file` returns 0 exactly when every section is
    present and its validator returns 0. -/
theorem verdict_iff_all_sections (j : Json) :
    validateInputFile j = .ok 0 ↔ ∀ v ∈ Gen.validators, ∃ a, sectionArg j v = .ok a ∧ runValidator v a = .ok 0 :=
  validateFrom_zero_iff j Gen.validators

/-- `verdict_case_insensitive`: the verdict of a section does not depend on the letter case of its
    name field — and the five such fields are the ones the property lists. -/
theorem verdict_case_insensitive :
    (Gen.validators.filter (fun v => v.upperKey ≠ "")).map (fun v => (v.sect, v.upperKey)) =
      [("fluid", "fluid_name"), ("pipe", "arrangement"), ("simulation", "timestep"),
       ("geometric_constraints", "method"), ("design", "flow_type")] ∧
    ∀ v ∈ Gen.validators, v.upperKey ≠ "" → ∀ (kv : Dict) (s s' : String), upper s = upper s' →
      runValidator v (.obj (dictSet kv v.upperKey (.str s))) = runValidator v (.obj (dictSet kv v.upperKey (.str s'))) := by
  refine ⟨by decide +kernel, ?_⟩
  intro v _ hk kv s s' h
  exact runValidator_case v kv s s' hk h

/-! ### Non-vacuity and the four witnesses of finding F2 -/

/-- A file with no sections: `validate_input_file` raises `KeyError`. -/
def emptyFile : World := ⟨some (.obj []), fun _ => false, false⟩

example : validateFile emptyFile = .error .keyError := validateFile_noSections _ _

/-- F2 witnesses, now all non-zero: invalid file with an output directory or `--validate-only`;
    no output directory; `--convert XYZ`. -/
example : processExit (.call false none true) emptyFile ≠ 0 :=
  invalid_nonzero false none true emptyFile (by simp [emptyFile, validateFile_noSections]) (Or.inr rfl)
example : processExit (.call true none false) emptyFile ≠ 0 :=
  invalid_nonzero true none false emptyFile (by simp [emptyFile, validateFile_noSections]) (Or.inl rfl)
example (w : World) : processExit (.call false none false) w = 1 := (unsupported_option_nonzero "XYZ" false w (by decide) (by decide)).2.1
example (w : World) : processExit (.call false (some "XYZ") true) w = 1 := (unsupported_option_nonzero "XYZ" true w (by decide) (by decide)).1

/-- F2, third part: 100 hourly loads are rejected. -/
example : runValidator (specOf "validate_loads") (.obj [("ground_loads", .arr (List.replicate 100 (.num 0)))]) = .ok 1 := by
  simp [schema_eval, specOf, Gen.validators, validProp, optAll, jtypeOk]

/-- Exit 0 is reachable on each of the three routes: `exit_zero_iff_success` is not vacuous. -/
example : ∃ w, processExit (.call true none false) w = 0 ∧ processExit (.call false none true) w = 0 ∧
    processExit (.call false (some "IDF") false) w = 0 := by
  -- the witness file enters only through these two facts (its 8760-load term is slow to argue about)
  obtain ⟨J, hval, s, hw, hs⟩ : ∃ J, validateInputFile J = .ok 0 ∧
      ∃ s, worker exactArith (fun _ => false) J = .ok (0, s) ∧ s.ran = ranAll := by
    have hv : ApiValid C17.rowWiseWitness := C17.rowWiseWitness_valid
    have hs := stateValid_of_api exactArith exactArith_exact _ hv .water .borehole
    have hval := validate_inputOf exactArith _ hs
    obtain ⟨env', hw⟩ := worker_inputOf exactArith _ hs.pipeOk (hv.geom.geomShape exactArith) hval
    exact ⟨_, hval, _, hw, rfl⟩
  refine ⟨⟨some J, fun _ => false, false⟩, ?_, ?_, ?_⟩
  · exact (exit_zero_iff_success _ _ _ _).2 (Or.inl ⟨rfl, hval⟩)
  · exact (exit_zero_iff_success _ _ _ _).2 (Or.inr (Or.inr ⟨rfl, rfl, rfl, s, hw, by simp [hs, ranAll]⟩))
  · exact (exit_zero_iff_success _ _ _ _).2 (Or.inr (Or.inl ⟨rfl, rfl, rfl⟩))

end GHEVerif.C18
