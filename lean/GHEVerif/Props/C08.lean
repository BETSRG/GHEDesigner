/-
  C08 — Hybrid time axis covers the horizon exactly and is ordered.

  Calendar: the three helpers are the *translated* source (`Gen.monthdays`, `Gen.firstMonthHour`,
  `Gen.lastMonthHour`, regenerated from ghedesigner/ground_loads.py on every check); their closed
  forms (Lemmas/HybridCal.lean) are re-based here, for non-leap years (`year % 4 ≠ 0`, the code's own
  test), on a common-year table written independently below.
  Sequence: `processMonthLoads` of Model/Hybrid.lean (arbitrary monthly arrays, any horizon).

  `strictly_increasing` needs, besides disjoint windows inside the month, that on a shared peak day
  the extraction pulse start is not clamped (`windowsClear`, last conjunct): with a duration longer
  than twice the noon hour (possible only on 1 January) `first_hour_heating_peak` is replaced by
  1e-6 and the emitted breakpoints are no longer the ones the record describes — the witness
  `clamped_axis_differs` (reproduced on the real code in harness/c08.py) shows a month whose extraction
  pulse is emitted up to hour 45 + 1e-6 where the record's window ends at hour 43.
-/
import GHEVerif.Lemmas.HybridHorizon
import Mathlib.Tactic.NormNum

namespace GHEVerif.C08
open GHEVerif GHEVerif.Hybrid

/-- The non-leap calendar, January first — written here independently of the source. -/
def commonYear : List Int := [31, 28, 31, 30, 31, 30, 31, 31, 30, 31, 30, 31]

/-- Days before month index `k` (0-based) of the common year. -/
def daysBefore (k : Nat) : Int := (commonYear.take k).sum

/-! ### calendar helpers -/

/-- `monthdays(m, y)` for every month number `m ≥ 1` of a non-leap year: the length of calendar
    month `((m-1) mod 12) + 1` (so month 13 is January again, 24 December, and the code's index-0
    convention for `m % 12 == 0` is December). -/
theorem monthdays_closed_form (y : Int) (hy : Int.fmod y 4 ≠ 0) (m : Int) (hm : 1 ≤ m) :
    Gen.monthdays m y = .ok (commonYear.getD ((m - 1) % 12).toNat 0) := by
  rw [monthdays_eq y m (by omega)]
  unfold mdays
  rw [numDays_common y hy]
  have key : ∀ k < 12, Gen.numDaysCommon.getD k 0 = commonYear.getD ((k + 11) % 12) 0 := by decide
  rw [key _ (by omega), show ((m - 1) % 12).toNat = ((m % 12).toNat + 11) % 12 by omega]

/-- `last_month_hour(i)` for every `i ≥ 0`: 24 × the days of the first `i` simulated months; for a
    non-leap year and `i = 12 q + k` (`k ≤ 12`) that is `8760 q + 24 · daysBefore k`. -/
theorem last_month_hour_closed_form (y : Int) (i : Int) (hi : 0 ≤ i) :
    Gen.lastMonthHour i [y] = .ok (lmh y i) ∧
    (Int.fmod y 4 ≠ 0 → ∀ q k : Nat, k ≤ 12 → lmh y (12 * (q : Int) + (k : Int)) = 8760 * (q : Int) + 24 * daysBefore k) := by
  refine ⟨lastMonthHour_eq y i hi, ?_⟩
  intro hy q k hk
  unfold lmh
  have : (12 * (q : Int) + (k : Int)).toNat = 12 * q + k := by omega
  rw [this, cumDays_mul12 y hy, cumDays_table y hy k hk, show (Gen.numDaysCommon.tail.take k).sum = daysBefore k from rfl]
  ring

/-- `first_month_hour(i) = last_month_hour(i-1) + 1` for every `i ≥ 1` (1-based hour labels). -/
theorem first_eq_prev_last_plus_one (y : Int) (i : Int) (hi : 1 ≤ i) :
    Gen.firstMonthHour i [y] = .ok (lmh y (i - 1) + 1) ∧ Gen.lastMonthHour (i - 1) [y] = .ok (lmh y (i - 1)) := by
  refine ⟨?_, lastMonthHour_eq y (i - 1) (by omega)⟩
  rw [firstMonthHour_eq y i hi, Int.add_comm]

/-- Consecutive month ends are `24 · monthdays` apart, and every month has at least 28 days. -/
theorem month_end_spacing (y : Int) (i : Int) (hi : 1 ≤ i) :
    lmh y i = lmh y (i - 1) + 24 * mdays y i ∧ Gen.monthdays i y = .ok (mdays y i) ∧ 28 ≤ mdays y i :=
  ⟨lmh_succ y i hi, monthdays_eq y i (by omega), mdays_ge y i⟩

/-- The replication loop never raises on 13-entry arrays, appends one entry per month beyond 12, and
    afterwards entry `i` is year-1 month `monthIndex i` (`i mod 12`, with 0 ↦ 12): in particular
    entries `m` and `m + 12` agree. -/
theorem replicate_month (base : List MonthRec) (hlen : base.length = 13) (start end_ : Int)
    (hs : 1 ≤ start) (hs' : start ≤ 13) (he : start - 1 ≤ end_) :
    ∃ ext, replicate base start end_ = .ok ext ∧ ext.length = 13 + (end_ - 12).toNat ∧
      (∀ i : Int, 1 ≤ i → i < 13 + ((end_ - 12).toNat : Int) → pyIndex ext i = .ok (recAt base i)) ∧
      (∀ i, recAt base (i + 12) = recAt base i) := by
  refine ⟨_, replicate_eq base hlen start hs' end_ he, ?_, ?_, recAt_add12 base⟩
  · rw [extList_length, hlen]
  · intro i h1 h2
    exact extList_index base hlen _ i h1 (by omega)

/-! ### the axis -/

/-- The sequence starts with the two zero entries `(0, 0)` and `(0, last_month_hour(start-1))`;
    with `start = 1` both hours are 0.  Needs only that no month raises. -/
theorem axis_starts_at_zero (y : Int) (base : List MonthRec) (hlen : base.length = 13) (start end_ : Int)
    (hs : 1 ≤ start) (hs' : start ≤ 13) (he : start - 1 ≤ end_)
    (hrun : ∀ i, start ≤ i → i ≤ end_ → MonthRuns y (recAt base i) (ipfFlag start end_ i) i) :
    ∃ rest, processMonthLoads y base start end_ =
        .ok (((0 : Rat), (0 : Rat)) :: ((0 : Rat), ((lmh y (start - 1) : Int) : Rat)) :: rest) ∧
      (start = 1 → ((lmh y (start - 1) : Int) : Rat) = 0) := by
  refine ⟨_, process_eq y base hlen start end_ hs hs' he hrun, ?_⟩
  intro h; subst h; simp [lmh_zero]

/-- Every month end is a breakpoint, and it is the last entry the month emits: the sequence is the two
    initial entries followed by one block per month, and the block of month `i` ends with
    `(month_rate i, last_month_hour i)`. -/
theorem month_end_breakpoints (y : Int) (base : List MonthRec) (hlen : base.length = 13) (start end_ : Int)
    (hs : 1 ≤ start) (hs' : start ≤ 13) (he : start - 1 ≤ end_)
    (hrun : ∀ i, start ≤ i → i ≤ end_ → MonthRuns y (recAt base i) (ipfFlag start end_ i) i) :
    ∃ blocks : Int → List (Rat × Rat),
      processMonthLoads y base start end_ =
        .ok ([((0 : Rat), (0 : Rat)), ((0 : Rat), ((lmh y (start - 1) : Int) : Rat))] ++
          ((pyRange start (end_ + 1)).map blocks).flatten) ∧
      ∀ i, start ≤ i → i ≤ end_ → ∃ pre, blocks i =
        pre ++ [(rateOf y (recAt base i) (ipfFlag start end_ i) i, ((lmh y i : Int) : Rat))] :=
  ⟨segsOf y base start end_, process_eq y base hlen start end_ hs hs' he hrun,
    (axis_core y base start end_ hs he hrun).1⟩

/-- The axis ends exactly at the last hour of the horizon, for any number of months `end_ ≥ start - 1`
    (not only multiples of 12): `Σ_{i ≤ end_} 24 · monthdays i`; for a non-leap year and
    `end_ = 12 q + k` that is `8760 q + 24 · daysBefore k`. -/
theorem axis_ends_at_horizon (y : Int) (base : List MonthRec) (hlen : base.length = 13) (start end_ : Int)
    (hs : 1 ≤ start) (hs' : start ≤ 13) (he : start - 1 ≤ end_)
    (hrun : ∀ i, start ≤ i → i ≤ end_ → MonthRuns y (recAt base i) (ipfFlag start end_ i) i) :
    ∃ seq, processMonthLoads y base start end_ = .ok seq ∧
      lastHour 0 seq = ((24 * cumDays y end_.toNat : Int) : Rat) ∧
      (Int.fmod y 4 ≠ 0 → ∀ q k : Nat, k ≤ 12 → end_ = 12 * (q : Int) + (k : Int) →
        lastHour 0 seq = ((8760 * (q : Int) + 24 * daysBefore k : Int) : Rat)) := by
  obtain ⟨_, hl⟩ := axis_core y base start end_ hs he hrun
  refine ⟨_, process_eq y base hlen start end_ hs hs' he hrun, hl, ?_⟩
  intro hy q k hk hend
  rw [hl, hend, (last_month_hour_closed_form y (12 * (q : Int) + (k : Int)) (by omega)).2 hy q k hk]

/-- Strict order.  If no month raises and every retained month's pulse windows are clear
    (`windowsClear`: positive length, strictly inside the month, disjoint in the order of the peak
    days — abutting at noon on a shared day — and no clamped start on a shared day), then the
    breakpoints after the two initial zeros increase strictly, all above `last_month_hour(start-1)`. -/
theorem strictly_increasing (y : Int) (base : List MonthRec) (hlen : base.length = 13) (start end_ : Int)
    (hs : 1 ≤ start) (hs' : start ≤ 13) (he : start - 1 ≤ end_)
    (hrun : ∀ i, start ≤ i → i ≤ end_ → MonthRuns y (recAt base i) (ipfFlag start end_ i) i)
    (hclear : ∀ i, start ≤ i → i ≤ end_ → ipfFlag start end_ i = true → windowsClear y (recAt base i) i) :
    ∃ seq, processMonthLoads y base start end_ = .ok seq ∧
      ((seq.drop 2).map Prod.snd).Pairwise (· < ·) ∧
      ∀ h ∈ (seq.drop 2).map Prod.snd, ((lmh y (start - 1) : Int) : Rat) < h := by
  refine ⟨_, process_eq y base hlen start end_ hs hs' he hrun, ?_⟩
  have hb : ∀ i, start ≤ i → i ≤ end_ →
      Incr ((lmh y (i - 1) : Int) : Rat) ((segsOf y base start end_ i).map Prod.snd) ∧
      lastHour ((lmh y (i - 1) : Int) : Rat) (segsOf y base start end_ i) = ((lmh y i : Int) : Rat) := by
    intro i a b
    obtain ⟨segs, e, h1, h2⟩ := emitMonth_incr y _ _ i (by omega) (hrun i a b) (hclear i a b)
    rw [emitMonth_segsOf e]; exact ⟨h1, h2⟩
  have c1 := (blocks_fold (fun i => ((lmh y i : Int) : Rat)) (segsOf y base start end_) start end_ he
    (fun i a b => (hb i a b).2)).2.2 (fun i a b => (hb i a b).1)
  simp only [List.cons_append, List.nil_append, List.drop_succ_cons, List.drop_zero]
  exact ⟨Incr_pairwise c1, Incr_lt_all c1⟩

/-! ### witnesses and non-vacuity -/

/-- An Atlanta-like retained month: rejection peak on day 17 (6 h), extraction peak on day 3 (2 h). -/
def wBoth : MonthRec := { cl := 9000, hl := 1200, pcl := 180, phl := 60, dayc := 17, dayh := 3, dcl := 6, dhl := 2 }

/-- … its windows are clear in July of year 1 (this month only is decided). -/
example : windowsClear 2019 wBoth 7 := by decide +kernel

/-- Non-vacuity of the closed forms: month 27 (March of year 3) ends at hour 19680 = 2·8760 + 24·90,
    starts at hour 18937 = last hour of month 26 + 1, and month 24 is a December. -/
example : Gen.lastMonthHour 27 [2019] = .ok 19680 ∧ Gen.firstMonthHour 27 [2019] = .ok 18937 ∧
    Gen.monthdays 24 2019 = .ok 31 := by
  have hy : Int.fmod (2019 : Int) 4 ≠ 0 := by decide
  have a := (last_month_hour_closed_form 2019 27 (by norm_num)).2 hy 2 3 (by norm_num)
  have b := (last_month_hour_closed_form 2019 26 (by norm_num)).2 hy 2 2 (by norm_num)
  have a' : lmh 2019 27 = 19680 := by simpa [daysBefore, commonYear] using a
  have b' : lmh 2019 26 = 18936 := by simpa [daysBefore, commonYear] using b
  refine ⟨?_, ?_, ?_⟩
  · rw [(last_month_hour_closed_form 2019 27 (by norm_num)).1, a']
  · rw [(first_eq_prev_last_plus_one 2019 27 (by norm_num)).1, show (27 : Int) - 1 = 26 by norm_num, b']; rfl
  · rw [monthdays_closed_form 2019 hy 24 (by norm_num)]; rfl

/-- Witness for the last conjunct of `windowsClear`: January, both peaks on day 0, a 30 h extraction
    duration (window [13, 43], well inside the month, abutting the rejection window [11, 13]).
    `first_hour_heating_peak = 13 − 15 < 0` is clamped to 1e-6, the extraction pulse is emitted up to
    hour 45.000001 instead of 43: the emitted axis is not the one the record describes. -/
def wClampH : MonthRec := { cl := 100, hl := 900, pcl := 20, phl := 30, dayc := 0, dayh := 0, dcl := 2, dhl := 30 }

theorem clamped_axis_differs :
    ∃ segs, emitMonth 2019 wClampH true 1 = .ok segs ∧
      segs.map Prod.snd = [11, 13, 45 + Gen.hybridDelta, 744] ∧
      (heatWindow (1 + lmh 2019 (1 - 1)) wClampH).2 = 43 :=
  ⟨_, emitMonth_runs 2019 wClampH true 1 (by decide) (by intro _; decide +kernel), by decide +kernel, by decide +kernel⟩

/-- A base year in which every month is `wBoth`; the example below instantiates `axis_ends_at_horizon` for a
    27-month horizon.  `strictly_increasing` is not instantiated (`hclear` has no witness here). -/
def wBase : List MonthRec := MonthRec.null :: List.replicate 12 wBoth

theorem wBase_rec (i : Int) : recAt wBase i = wBoth := recAt_cons_replicate _ _ i

example : ∃ seq, processMonthLoads 2019 wBase 1 27 = .ok seq ∧ lastHour 0 seq = 19680 := by
  obtain ⟨seq, h1, _, h3⟩ := axis_ends_at_horizon 2019 wBase rfl 1 27 (by norm_num) (by norm_num) (by norm_num) (by
    intro i _ _
    rw [wBase_rec]
    exact monthRuns_of_lt (by norm_num [pulseHours, wBoth]))
  refine ⟨seq, h1, ?_⟩
  have := h3 (by decide) 2 3 (by norm_num) (by norm_num)
  rw [this]; simp [daysBefore, commonYear]

end GHEVerif.C08
