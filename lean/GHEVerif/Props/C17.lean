/-
  C17 — Input files written by the tool are schema-valid and round-trip.

  Property theorems only.  Everything named `Gen.…` (schemas, `to_input()` rows, the
  `write_input_file` program, the worker's operations, setter signatures, enum members) is
  regenerated from /repo on every check; the model functions `build`, `toInput`,
  `validateInputFile`, `load` (Model/Config.lean) interpret those tables, so the theorems are
  re-proved against what the sources say now.

  The quantifier: every API configuration `c` in the documented domain (`ApiValid`): any of the
  six geometry methods (RowWise with or without a perimeter ratio), four pipe arrangements, five
  fluids in any letter case, cap and continue flag present or absent, all numbers arbitrary
  rationals in range, any 8760 loads, any polygons of points with two non-negative coordinates (constrained geometry:
  no empty polygon or point).  `ApiValid`, `Arith.Exact` and the key tables are defined at the head of Lemmas/Config.lean.
  `A : Arith` are the float operations
  `x/2`, `x*2`, degrees→radians; `A.Exact` (halving then doubling is the identity, and back) is
  the only arithmetic fact used, and nothing at all is assumed about degrees→radians (finding
  F3(b), repaired: the written rotations are the degrees given).
-/
import GHEVerif.Lemmas.Config

namespace GHEVerif.C17
open GHEVerif GHEVerif.Config GHEVerif.Gen

/-- The model's enum names are the members of enums.py. -/
theorem enum_names_tied :
    FluidType.all.map FluidType.name = Gen.enum_FluidType ∧ PipeType.all.map PipeType.name = Gen.enum_BHPipeType ∧
    GeomType.all.map GeomType.name = Gen.enum_DesignGeomType ∧ FlowCfg.all.map FlowCfg.name = Gen.enum_FlowConfigType :=
  ⟨rfl, rfl, rfl, rfl⟩

/-- The setters accept every configuration of the documented domain. -/
theorem api_accepts (A : Arith) (c : Config) (h : ApiValid c) : ∃ m, build A c = .ok m := by
  obtain ⟨ft, fl, hb⟩ := build_of_api A h
  exact ⟨_, hb⟩

/-- `written_valid`: the file written for an accepted configuration passes `validate_input_file`
    (all ten validators, error count 0, no exception), and it is written with sorted keys. -/
theorem written_valid (A : Arith) (hA : A.Exact) (c : Config) (h : ApiValid c) :
    ∃ m j, build A c = .ok m ∧ writeInputFile A m = .ok ⟨some j, true, 2, 0⟩ ∧ toInput A m = .ok j ∧
      validateInputFile j = .ok 0 := by
  obtain ⟨ft, fl, hb⟩ := build_of_api A h
  have hv := stateValid_of_api A hA c h ft fl
  exact ⟨_, _, hb, writeInputFile_eq A _ true hv.pipeOk, toInput_eq A _ hv.pipeOk, validate_inputOf A _ hv⟩

/-- `load_toInput`: the command-line loading path, run on the written file, reaches `find_design`
    without raising and with exactly the configuration that was written, up to `normalise`
    (nominal borehole height := maximum height; `geom_type` recorded). -/
theorem load_toInput (A : Arith) (hA : A.Exact) (c : Config) (h : ApiValid c) :
    ∃ m j, build A c = .ok m ∧ toInput A m = .ok j ∧ load A j = .ok (some (normalise m)) := by
  obtain ⟨ft, fl, hb⟩ := build_of_api A h
  have hv := stateValid_of_api A hA c h ft fl
  refine ⟨_, _, hb, toInput_eq A _ hv.pipeOk, ?_⟩
  rw [load_inputOf A _ hv.pipeOk (h.geom.geomShape A) (validate_inputOf A _ hv),
    reloaded_eq_normalise A _ (rePipe_pipeGeomOf A hA _) (reGeom_geomOf A _) (hA.half_dbl _) rfl]

/-- `toInput_fixpoint`: what `normalise` forgets is not in the file.  No assumption on the float
    operations: in particular none on degrees→radians→degrees (finding F3(b), repaired). -/
theorem toInput_fixpoint (A : Arith) (c : Config) (h : ApiValid c) :
    ∃ m, build A c = .ok m ∧ toInput A (normalise m) = toInput A m := by
  obtain ⟨ft, fl, hb⟩ := build_of_api A h
  exact ⟨_, hb, toInput_normalise A _ (pipeOk_partsOf A c ft fl)⟩

/-- write ∘ load ∘ write = write: the reloaded manager writes the same JSON value again. -/
theorem write_load_write (A : Arith) (hA : A.Exact) (c : Config) (h : ApiValid c) :
    ∃ m j m', build A c = .ok m ∧ toInput A m = .ok j ∧ load A j = .ok (some m') ∧ toInput A m' = .ok j := by
  obtain ⟨m, j, hb, hj, hl⟩ := load_toInput A hA c h
  obtain ⟨m2, hb2, hfix⟩ := toInput_fixpoint A c h
  rw [hb] at hb2
  cases hb2
  exact ⟨m, j, _, hb, hj, hl, hfix.trans hj⟩

/-- `keys_read ⊆ keys_written`, per variant, on the generated tables: every key the loader
    subscripts (a missing one is a `KeyError`) is written unconditionally for the
    same geometry method / pipe arrangement / section; the `**section` calls receive only
    parameters of their setter and all required ones. -/
theorem keys_read_subset_written :
    geomKeysOk = true ∧ pipeKeysOk = true ∧ fixedKeysOk = true ∧
    splatOk "set_fluid" "GHEFluid" = true ∧ splatOk "set_grout" "Grout" = true ∧ splatOk "set_soil" "Soil" = true := by
  decide +kernel

/-! ### Non-vacuity and regression witnesses -/

def witnessLoads : List Rat := List.replicate 8760 1000

/-- A RowWise configuration without a perimeter ratio and with the rotation limits −60°/60° —
    the witness of findings F3(a) and F3(b). -/
def rowWiseWitness : Config :=
  { fluidName := "Water", percent := 0, temperature := 20, groutK := 1, groutRhoCp := 3901000, soilK := 2, soilRhoCp := 2343493,
    soilT := 183 / 10, pipe := .single (3404 / 100000) (4216 / 100000) (1856 / 100000) (1 / 1000000) (4 / 10) 1542000,
    nominalHeight := 96, buriedDepth := 2, diameter := 14 / 100, numMonths := 240, maxEft := 35, minEft := 5,
    maxHeight := 135, minHeight := 60, maxBoreholes := none, cont := false, loads := witnessLoads,
    geom := .rowWise none 10 5 (1 / 10) 60 (-60) (1 / 2) [[0, 0], [50, 0], [0, 40]] [[[10, 10], [12, 10], [10, 12]]],
    flowRate := 1 / 2, flowType := "borehole" }

theorem rowWiseWitness_valid : ApiValid rowWiseWitness where
  fluid := ⟨.water, by decide +kernel⟩
  flowType := ⟨.borehole, by decide +kernel⟩
  percent0 := by decide
  percent60 := by decide
  groutK := by decide
  groutRc := by decide
  soilK := by decide
  soilRc := by decide
  pipe := by simp only [rowWiseWitness, PipeArgsValid]; decide +kernel
  depth := by decide
  months := by decide
  maxH := by decide
  minH := by decide
  geom := by simp only [rowWiseWitness, GeomArgsValid, PolyOk, PolysOk, PointOk, reduceCtorEq, false_implies, implies_true]; decide +kernel
  flow := by decide +kernel
  loads := List.length_replicate ..

/-- Non-vacuity of the theorems above that assume `ApiValid`: the hypotheses are satisfiable (exact arithmetic, the witness). -/
example : ∃ m j m', build exactArith rowWiseWitness = .ok m ∧ toInput exactArith m = .ok j ∧ validateInputFile j = .ok 0 ∧
    load exactArith j = .ok (some m') ∧ toInput exactArith m' = .ok j := by
  obtain ⟨m, j, m', h1, h2, h3, h4⟩ := write_load_write exactArith exactArith_exact rowWiseWitness rowWiseWitness_valid
  obtain ⟨m2, j2, g1, _, g2, g3⟩ := written_valid exactArith exactArith_exact rowWiseWitness rowWiseWitness_valid
  rw [h1] at g1; cases g1
  rw [h2] at g2; cases g2
  exact ⟨m, j, m', h1, h2, g3, h3, h4⟩

/-- Regression, F3(b): whatever degrees→radians does, the written rotation limits of the witness
    are the degrees given (−60, not −59.99999999999999). -/
example (A : Arith) : ∃ m j g, build A rowWiseWitness = .ok m ∧ toInput A m = .ok j ∧
    pyGetItem j "geometric_constraints" = .ok g ∧ pyGetItem g "min_rotation" = .ok (.num (-60)) ∧
    pyGetItem g "max_rotation" = .ok (.num 60) := by
  have hp := pipeOk_partsOf A rowWiseWitness .water .borehole
  refine ⟨_, _, .obj (geoJ (partsOf A rowWiseWitness .water .borehole).g (partsOf A rowWiseWitness .water .borehole).p), build_eq A rowWiseWitness .water .borehole (by decide +kernel) (by decide +kernel) trivial,
    toInput_eq A _ hp, ?_, ?_, ?_⟩ <;>
    simp only [schema_eval, inputOf, fileOf, geoJ, geomRows, partsOf, rowWiseWitness, geomOf]

/-- Regression, F3(a): the witness is written without the `perimeter_spacing_ratio` key … -/
example (A : Arith) : ∃ m j g, build A rowWiseWitness = .ok m ∧ toInput A m = .ok j ∧
    pyGetItem j "geometric_constraints" = .ok g ∧ pyContains g "perimeter_spacing_ratio" = .ok false := by
  have hp := pipeOk_partsOf A rowWiseWitness .water .borehole
  refine ⟨_, _, .obj (geoJ (partsOf A rowWiseWitness .water .borehole).g (partsOf A rowWiseWitness .water .borehole).p), build_eq A rowWiseWitness .water .borehole (by decide +kernel) (by decide +kernel) trivial,
    toInput_eq A _ hp, ?_, ?_⟩ <;>
    simp only [schema_eval, inputOf, fileOf, geoJ, geomRows, partsOf, rowWiseWitness, geomOf]

/-- … while the form written before the repair (`"perimeter_spacing_ratio": null`) is rejected by
    the RowWise schema as it is now: one error. -/
example : runValidator (specOf "validate_geometric")
    (.obj [("method", .str "ROWWISE"), ("perimeter_spacing_ratio", .null), ("min_spacing", .num 5), ("max_spacing", .num 10),
           ("spacing_step", .num (1 / 10)), ("min_rotation", .num (-60)), ("max_rotation", .num 60), ("rotate_step", .num (1 / 2)),
           ("property_boundary", .arr []), ("no_go_boundaries", .arr []), ("max_height", .num 135), ("min_height", .num 60)]) = .ok 1 := by
  simp [schema_eval, specOf, Gen.validators, validProp, optAll, jtypeOk]

end GHEVerif.C17
