/-
  C05 — Design is not oversized: height is a root, the next smaller field fails.
  Theorems about `bisect1D` for every candidate-list length, every threshold position and every
  sign pattern (not "up to 64" / "up to length 10"), plus the root property of the height.
-/
import GHEVerif.Lemmas.Search
import GHEVerif.Lemmas.SearchNested
import GHEVerif.Props.C01
import GHEVerif.Lemmas.Pipeline

namespace GHEVerif.C05
open GHEVerif GHEVerif.Search GHEVerif.Report GHEVerif.Pipeline

/-- Drilling bound, arbitrary sign pattern, ties included.  The candidate returned by the bisection
    path has the smallest borehole count among **all** candidates this search evaluated at maximum
    height and found feasible (since the F12 repair that includes the extra evaluation after the
    loop; since the F32 repair it holds also when several evaluated candidates have exactly the same
    excess — before it the hypothesis "no two evaluated candidates tie" was needed, and on a plateau
    the search returned the first-evaluated, i.e. the largest, of them).  The statement compares
    borehole counts only; no inequality between total drilling lengths is stated. -/
theorem bisect1D_smallest_evaluated (counts : List Nat) (E : Nat → Rat → Rat) (cfg : Cfg)
    (k : Nat) (h : Rat) (tr : List (Nat × Rat))
    (hsel : bisect1D counts E cfg = (.selected k h .bisection, tr)) :
    ∀ j, (j, cfg.maxH) ∈ tr → E j cfg.maxH < 0 → counts.getD k 0 ≤ counts.getD j 0 := by
  obtain ⟨_, _, _, _, _, _, hmin⟩ := bisect1D_selected hsel
  exact hmin

/-- First feasible candidate, monotone excess, **every** list length and threshold position.
    Candidates `< kth` fail and candidates `≥ kth` meet the limits at maximum height
    (`0 < kth ≤ xr`), the smallest field also fails at minimum height, counts strictly increase,
    and the iteration cap is large enough (`xr ≤ 2^max_iter`; 15 iterations cover 32768 candidates);
    ties in the excess are allowed (since the F32 repair: before it "no two candidates have the same
    excess" was a hypothesis).  Then the search returns exactly
    candidate `kth`, and its predecessor `kth - 1` was evaluated at maximum height (and fails). -/
theorem bisect1D_first_feasible (counts : List Nat) (E : Nat → Rat → Rat) (cfg : Cfg) (xr kth : Nat)
    (hu : upperIndex counts cfg.cap = .ok xr)
    (hk0 : 0 < kth) (hkx : kth ≤ xr)
    (hmono : ∀ i, i ≤ xr → (E i cfg.maxH < 0 ↔ kth ≤ i))
    (hpos : ∀ i, i ≤ xr → E i cfg.maxH ≠ 0)
    (hlow : 0 < E 0 cfg.minH)
    (hcounts : ∀ i j, i < j → j ≤ xr → counts.getD i 0 < counts.getD j 0)
    (hfuel : xr ≤ 2 ^ cfg.maxIter) :
    ∃ tr, bisect1D counts E cfg = (.selected kth cfg.maxH .bisection, tr) ∧
      (kth - 1, cfg.maxH) ∈ tr ∧ 0 < E (kth - 1) cfg.maxH := by
  have hfail : ∀ i, i ≤ xr → i < kth → 0 < E i cfg.maxH := fun i hi hlt =>
    lt_of_le_of_ne (not_lt.mp (mt (hmono i hi).mp (Nat.not_le.mpr hlt))) (hpos i hi).symm
  have hE0 : 0 < E 0 cfg.maxH := hfail 0 (Nat.zero_le _) hk0
  have hExr : E xr cfg.maxH < 0 := (hmono xr (le_refl _)).mpr hkx
  rcases bisect1D_run hu (pre_of_pos_pos_neg hlow hE0 hExr) with
    ⟨_, _, _, _, c, _, hc, hz⟩ | ⟨i, s, k, hl, hb, hkle, hkneg, _, hmin⟩
  · exact absurd hz (hpos c hc.le)
  · obtain ⟨_, _, hltr, hrtr⟩ := loop_ends_at_threshold hk0 hkx hmono hE0 hfuel hl
    -- `kth` was evaluated and is feasible; the pick has the fewest boreholes among such, and counts increase
    have hkeq : k = kth := by
      refine le_antisymm (Nat.le_of_not_lt fun hlt => ?_) ((hmono k hkle).mp hkneg)
      exact absurd (hmin kth (List.mem_append_left _ hrtr) ((hmono kth hkx).mpr (le_refl _)))
        (Nat.not_le.mpr (hcounts kth k hlt hkle))
    exact ⟨_, by rw [hb, hkeq], List.mem_append_left _ hltr,
      hfail _ ((Nat.sub_le _ _).trans hkx) (Nat.sub_lt hk0 Nat.one_pos)⟩

/-- Nested lists (`Bisection2D`): the returned field is the 1D selection of its inner list, hence
    (bisection path; ties allowed since the F32 repair) it has the fewest boreholes among the candidates
    of that list evaluated at maximum height and found feasible. -/
theorem bisect2D_inner_selection (nc : List (List Nat)) (E2 : Nat → Nat → Rat → Rat) (cfg : Cfg)
    (l k : Nat) (hh : Rat) (tr : Trace2) (h : bisect2D nc E2 cfg = (.selected l k hh, tr)) :
    ∃ p tr', bisect1D (nc.getD l []) (E2 l) cfg = (.selected k hh p, tr') ∧
      (p = .bisection →
        ∀ j, (j, cfg.maxH) ∈ tr' → E2 l j cfg.maxH < 0 → (nc.getD l []).getD k 0 ≤ (nc.getD l []).getD j 0) := by
  obtain ⟨_, p, tr', h1⟩ := bisect2D_selected h
  refine ⟨p, tr', h1, ?_⟩
  intro hp
  subst hp
  exact bisect1D_smallest_evaluated _ _ cfg k hh tr' h1

/-- Bi-zoned search: the returned field is the 1D selection of its list, and its total drilling
    (count × sized height) is at most the third component of every entry of `zdDone`, the per-list
    results `search_successive` recorded.  (What an entry is, and that the returned design is one,
    is not part of this statement.) -/
theorem bisectZD_least_total_drilling (nc : List (List Nat)) (E2 : Nat → Nat → Rat → Rat)
    (sz : Nat → Nat → Rat) (cfg : Cfg) (l k : Nat) (hh : Rat) (tr : Trace2)
    (h : bisectZD nc E2 sz cfg = (.selected l k hh, tr)) :
    (∃ h1 p tr', bisect1D (nc.getD l []) (E2 l) cfg = (.selected k h1 p, tr')) ∧
      ∀ e ∈ zdDone nc E2 sz cfg, ((nc.getD l []).getD k 0 : Nat) * hh ≤ e.2.2 := by
  obtain ⟨e, _, hs, _, hmin⟩ := bisectZD_selected h
  subst e
  exact ⟨hs, hmin⟩

/-- Unless the height is clamped at a bound, the returned height makes the excess zero within
    solver tolerance: Brent's contract plus a Lipschitz constant `c` give `|excess| ≤ c·tol`. -/
theorem height_is_root (x : Rat) (f : Rat → Rat) (lo hi brent tol c : Rat)
    (hsig : (f lo < 0 ∧ 0 < f hi) ∨ (f hi < 0 ∧ 0 < f lo))
    (hb : C01.BrentSpec f lo hi tol brent) (hl : C01.Lipschitz f c lo hi) :
    solveRoot x f lo hi brent = .ok (.bracketed, brent) ∧ ratAbs (f brent) ≤ c * tol :=
  let ⟨h1, h2, _, _⟩ := C01.solveRoot_bracketed x f lo hi brent tol c hsig hb hl
  ⟨h1, h2⟩

/-- "Not oversized" at the level of `GHEManager.find_design`, for every design method: for a returned
    design whose field meets the limits at maximum height, the final height is either the MINIMUM
    height (when the field already meets the limits there: nothing shorter is allowed) or a root of the
    excess within `c·tol` (the field fails at minimum height, so Brent's bracket applies) — it is
    never left above a root. -/
theorem find_design_height_not_oversized {α β : Type} (search : SearchRes α β) (E : α → Rat → Rat) (minH maxH : Rat)
    (f : α → Rat → Rat) (its : α → List Rat) (brent : α → Rat) (d : DesignG α β) (tol c : Rat)
    (hres : findDesignG search E minH maxH f its brent = .design d)
    (hfeas : f d.field maxH < 0)
    (hnz : f d.field minH ≠ 0)
    (hb : 0 < f d.field minH → C01.BrentSpec (f d.field) minH maxH tol (brent d.field))
    (hl : C01.Lipschitz (f d.field) c minH maxH) :
    (f d.field minH < 0 ∧ d.st.H = minH) ∨ (0 < f d.field minH ∧ ratAbs (f d.field d.st.H) ≤ c * tol) := by
  rcases findDesignG_design_feasible hres hfeas hnz with ⟨hneg, hH⟩ | ⟨hpos, hH⟩
  · exact Or.inl ⟨hneg, hH⟩
  · rw [hH]
    obtain ⟨_, hroot⟩ := height_is_root ((maxH + minH) / 2) _ _ _ _ tol c (Or.inr ⟨hfeas, hpos⟩) (hb hpos) hl
    exact Or.inr ⟨hpos, hroot⟩

/-- A concrete search of the kind `bisect1D_first_feasible` speaks of (9 candidates, excess decreasing,
    threshold at 5): candidate 5 is returned after candidate 4 was evaluated. -/
example :
    (bisect1D [1, 2, 3, 4, 5, 6, 7, 8, 9] (fun i h => if h = 135 then (9 : Rat) / 2 - i else 20 - i)
      { cap := none, cont := false, maxIter := 15, minH := 60, maxH := 135 })
      = (.selected 5 135 .bisection, [(0, 60), (0, 135), (8, 135), (4, 135), (6, 135), (5, 135), (3, 135)]) := by
  decide +kernel

/-- A plateau (every feasible candidate has exactly the same excess, as when the lower limit binds at
    the undisturbed ground temperature): the search returns the smallest evaluated feasible candidate,
    index 3 with 6 boreholes — before the F32 repair it returned index 7 (20 boreholes), the first
    evaluated candidate with that excess. -/
example :
    (bisect1D [1, 2, 4, 6, 9, 12, 16, 20]
      (fun i h => if h = 135 then (if i < 3 then (1 : Rat) else -3 / 10) else 5)
      { cap := none, cont := false, maxIter := 15, minH := 60, maxH := 135 }).1
      = .selected 3 135 .bisection := by decide +kernel

end GHEVerif.C05
