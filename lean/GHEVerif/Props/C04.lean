/-
  C04 — Polygon-constrained fields lie inside the property and outside no-go zones.

  The model (Model/Constrained.lean) composes the two finished models `Domains.biRectangleNested`
  (C03) and `Polygon.classify` (C16) the way `domains.polygonal_land_constraint` composes
  `bi_rectangle_nested` and `feature_recognition.remove_cutout`; the keep conditions, the
  `keep_contour=[True, False]` default and the arguments of the two `remove_cutout` calls are
  `GHEVerif.Gen.*`, regenerated from the source on every check.

  All theorems hold for EVERY rounding operator `R` of the grid generator (in particular for
  `R = fl64`, the instance compared bit for bit with the code) unless `R = id` is written, for
  every list of property outlines (no simplicity / convexity / orientation hypothesis) and every
  no-go argument (`None`, flat one-polygon form, list of polygons), and are stated for runs that
  return (`= .ok out`); the error branches are theorems of section 6.
-/
import GHEVerif.Lemmas.Constrained
import GHEVerif.Props.C16
import GHEVerif.Props.C03

namespace GHEVerif.C04
open GHEVerif GHEVerif.Coords GHEVerif.Domains GHEVerif.Polygon GHEVerif.Constrained

/-- the tolerance both cut-outs use -/
abbrev tol : Rat := Gen.cutoutTolDefault

/-- the no-go polygons of a call (`None` → none) -/
abbrev nogosOf (nogo : Option Bounds) : List Poly := (nogo.getD (.many [])).polys

/-- within the documented edge tolerance of the boundary of `b` (the source's comparison, over ℝ) -/
def InBand (b : Poly) (p : Point) : Prop :=
  ∃ e ∈ edges b, |rdist e.1 p + rdist e.2 p - rdist e.1 e.2| < (tol : ℝ)

/-! ### 0. `remove_cutout` -/

/-- `remove_cutout` is a filter of the coordinate list (order and multiplicity preserved) and
    its decision is, for `remove_inside=False`: inside some outline, or on an edge band if the
    contour is kept; for `remove_inside=True`: inside no outline, and on no edge band unless the
    contour is kept.  Every mode, every tolerance, both forms of the boundary argument.  (The two
    equivalences describe `keepPoint`, whether or not the call returns.) -/
theorem remove_cutout_spec (coords out : Field) (b : Bounds) (ri kc : Bool) (t : Rat)
    (h : removeCutout coords b ri kc t = .ok out) :
    out = coords.filter (keepPoint ri kc t b.polys) ∧
    (∀ p, keepPoint false kc t b.polys p = true ↔
      (∃ q ∈ b.polys, classify t q p = 1) ∨ (kc = true ∧ ∃ q ∈ b.polys, classify t q p = 0)) ∧
    (∀ p, keepPoint true kc t b.polys p = true ↔
      (∀ q ∈ b.polys, classify t q p ≠ 1) ∧ (kc = true ∨ ∀ q ∈ b.polys, classify t q p ≠ 0)) :=
  ⟨removeCutout_ok h, fun p => keepPoint_keep_iff kc t _ p, fun p => keepPoint_remove_iff kc t _ p⟩

/-! ### 1. which grid boreholes survive -/

/-- With the source's defaults (property cut keeps the contour, no-go cut removes it) the joint
    decision of the two cuts is: 1 or 0 for some property outline and −1 for every no-go polygon. -/
theorem kept_decision (props nogos : List Poly) (p : Point) :
    keptB tol props nogos p = true ↔
      (∃ b ∈ props, classify tol b p = 1 ∨ classify tol b p = 0) ∧ (∀ b ∈ nogos, classify tol b p = -1) :=
  keptB_iff tol props nogos p

/-- A run that returns is: bounding rectangle `landOf props = (L, W)` (see `bounding_rectangle`);
    `nested = bi_rectangle_nested(L, W, …)`; and, list by list, the output list is the stable sort by size of
    the non-empty cut fields.  The last conjunct says what a cut is — `cutOf` keeps exactly the boreholes
    with `Kept`, both directions — and holds of every field, whatever the run. -/
theorem kept_iff (R : Rat → Rat) (bmin bx by_ : Rat) (props : List Poly) (nogo : Option Bounds)
    (out : List (List Field) × List (List Nat))
    (h : polygonalLandConstraint R bmin bx by_ (.many props) nogo Gen.plcKeepContourDefault = .ok out) :
    ∃ L W nested, landOf props = some (L, W) ∧ biRectangleNested R L W bmin bx by_ = .ok nested ∧
      List.Forall₂ (fun dom od =>
          od = stableSort List.length ((dom.map (cutOf tol props (nogosOf nogo))).filter (fun g => decide (g ≠ []))))
        nested out.1 ∧
      ∀ (f : Field) (p : Point), p ∈ cutOf tol props (nogosOf nogo) f ↔ p ∈ f ∧ Kept tol props (nogosOf nogo) p := by
  obtain ⟨L, W, nested, h1, h2, h3⟩ := plc_ok h
  obtain ⟨_, e1, _⟩ := plcCore_ok h3
  refine ⟨L, W, nested, h1, h2, ?_, fun f p => ?_⟩
  · rw [e1]; exact forall₂_map_self.mpr fun _ _ => rfl
  · unfold cutOf; rw [List.mem_filter, keptB_iff]

/-- The cut of a field is a sublist of it: surviving boreholes keep their order and multiplicity. -/
theorem cut_sublist (props nogos : List Poly) (f : Field) : (cutOf tol props nogos f).Sublist f :=
  List.filter_sublist

/-! ### 2. shape of the result -/

/-- Every returned field is the cut of a grid field of the same list,
    hence a sublist of it. -/
theorem fields_subset_grid (R : Rat → Rat) (bmin bx by_ : Rat) (props : List Poly) (nogo : Option Bounds)
    (out : List (List Field) × List (List Nat))
    (h : polygonalLandConstraint R bmin bx by_ (.many props) nogo Gen.plcKeepContourDefault = .ok out) :
    ∃ L W nested, landOf props = some (L, W) ∧ biRectangleNested R L W bmin bx by_ = .ok nested ∧
      List.Forall₂ (fun dom od => ∀ g ∈ od, ∃ f ∈ dom, g = cutOf tol props (nogosOf nogo) f ∧ g.Sublist f)
        nested out.1 := by
  obtain ⟨L, W, nested, h1, h2, h3, _⟩ := kept_iff R bmin bx by_ props nogo out h
  refine ⟨L, W, nested, h1, h2, List.Forall₂.imp ?_ h3⟩
  intro dom od hod g hg
  rw [hod, mem_stableSort, ← cutDom_eq, mem_cutDom] at hg
  obtain ⟨⟨f, hf, rfl⟩, _⟩ := hg
  exact ⟨f, hf, rfl, cut_sublist _ _ f⟩

/-- No returned list is empty and no returned field is empty; there are as
    many descriptor lists as lists. -/
theorem no_empty_field (R : Rat → Rat) (bmin bx by_ : Rat) (props : List Poly) (nogo : Option Bounds)
    (out : List (List Field) × List (List Nat))
    (h : polygonalLandConstraint R bmin bx by_ (.many props) nogo Gen.plcKeepContourDefault = .ok out) :
    (∀ od ∈ out.1, od ≠ [] ∧ ∀ g ∈ od, g ≠ []) ∧ out.1.length = out.2.length := by
  obtain ⟨L, W, nested, _, _, h3⟩ := plc_ok h
  obtain ⟨hne, e1, e2⟩ := plcCore_ok h3
  refine ⟨?_, by rw [e1, e2, List.length_map, List.length_map]⟩
  intro od hod
  rw [e1, List.mem_map] at hod
  obtain ⟨dom, hd, rfl⟩ := hod
  constructor
  · intro he
    exact hne dom hd ((stableSort_perm List.length _).symm.trans (.of_eq he)).eq_nil
  · intro g hg
    rw [mem_stableSort, mem_cutDom] at hg
    exact hg.2

/-- Each returned list is ordered by non-decreasing borehole
    count. -/
theorem sorted_by_count (R : Rat → Rat) (bmin bx by_ : Rat) (props : List Poly) (nogo : Option Bounds)
    (out : List (List Field) × List (List Nat))
    (h : polygonalLandConstraint R bmin bx by_ (.many props) nogo Gen.plcKeepContourDefault = .ok out) :
    ∀ od ∈ out.1, (od.map List.length).Pairwise (· ≤ ·) := by
  obtain ⟨L, W, nested, _, _, h3, _⟩ := kept_iff R bmin bx by_ props nogo out h
  intro od hod
  obtain ⟨dom, _, rfl⟩ := forall₂_mem_right h3 od hod
  rw [List.pairwise_map]
  exact stableSort_sorted List.length _

/-- The sort of `reorder_domain` behaves as Python's stable `sorted`: the result is a permutation of
    the input, ordered by the key, with the elements of each key in their input order; an input
    that is already ordered is returned unchanged. -/
theorem sort_is_stable {α : Type} (key : α → Nat) (l : List α) :
    (stableSort key l).Perm l ∧ (stableSort key l).Pairwise (fun x y => key x ≤ key y) ∧
    (∀ k, (stableSort key l).filter (fun x => key x = k) = l.filter (fun x => key x = k)) ∧
    (l.Pairwise (fun x y => key x ≤ key y) → stableSort key l = l) :=
  ⟨stableSort_perm key l, stableSort_sorted key l, stableSort_filter key l, stableSort_of_sorted key l⟩

/-! ### 3. with C16: inside the property, outside the no-go zones, in the crossing-number sense -/

theorem tol_pos : 0 < tol := C16.default_tolerances_positive.2

/-- `point_polygon_check` with the cut-out tolerance, read through C16: 0 ⇔ within the edge
    tolerance of the boundary; otherwise 1 ⇔ odd crossing number, −1 ⇔ even crossing number. -/
theorem classify_meaning (b : Poly) (p : Point) :
    (classify tol b p = 0 ↔ InBand b p) ∧
    (classify tol b p = 1 ↔ ¬ InBand b p ∧ Odd (crossings b p)) ∧
    (classify tol b p = -1 ↔ ¬ InBand b p ∧ Even (crossings b p)) := by
  have hb : InBand b p ↔ (edges b).any (fun e => onBand tol e p) = true := (any_onBand_iff tol b p).symm
  rw [classify_of_pos_tol tol tol_pos, hb, Nat.odd_iff, Nat.even_iff]
  by_cases h : (edges b).any (fun e => onBand tol e p) = true
  · simp [h]
  · rcases Nat.mod_two_eq_zero_or_one (crossings b p) with h2 | h2 <;> simp [h, h2]

/-- `Kept` in the crossing-number sense. -/
theorem kept_meaning (props nogos : List Poly) (p : Point) :
    Kept tol props nogos p ↔
      (∃ b ∈ props, InBand b p ∨ (¬ InBand b p ∧ Odd (crossings b p))) ∧
      (∀ b ∈ nogos, ¬ InBand b p ∧ Even (crossings b p)) := by
  simp only [Kept, (classify_meaning _ p).1, (classify_meaning _ p).2.1, (classify_meaning _ p).2.2, or_comm]

/-- Every borehole of every candidate field lies inside (odd crossing number), or on the
    boundary within the documented edge tolerance of, at least one property outline, and neither
    inside nor within the edge tolerance of any no-go polygon. -/
theorem boreholes_inside_property_outside_nogo (R : Rat → Rat) (bmin bx by_ : Rat) (props : List Poly)
    (nogo : Option Bounds) (out : List (List Field) × List (List Nat))
    (h : polygonalLandConstraint R bmin bx by_ (.many props) nogo Gen.plcKeepContourDefault = .ok out) :
    ∀ od ∈ out.1, ∀ g ∈ od, ∀ p ∈ g,
      (∃ b ∈ props, InBand b p ∨ (¬ InBand b p ∧ Odd (crossings b p))) ∧
      (∀ b ∈ nogosOf nogo, ¬ InBand b p ∧ Even (crossings b p)) := by
  obtain ⟨L, W, nested, _, _, h3, h4⟩ := kept_iff R bmin bx by_ props nogo out h
  intro od hod g hg p hp
  obtain ⟨dom, _, rfl⟩ := forall₂_mem_right h3 od hod
  rw [mem_stableSort, ← cutDom_eq, mem_cutDom] at hg
  obtain ⟨⟨f, _, rfl⟩, _⟩ := hg
  exact (kept_meaning _ _ p).mp ((h4 f p).mp hp).2

/-- Conversely, no grid borehole that is clearly inside the property (odd crossing number for
    some outline, outside that outline's edge band) and clearly outside every no-go polygon (even
    crossing number, outside the band) is dropped: the cut of its field is one of the returned
    fields of the same list and contains it. -/
theorem clearly_inside_not_dropped (R : Rat → Rat) (bmin bx by_ : Rat) (props : List Poly)
    (nogo : Option Bounds) (out : List (List Field) × List (List Nat))
    (h : polygonalLandConstraint R bmin bx by_ (.many props) nogo Gen.plcKeepContourDefault = .ok out) :
    ∃ L W nested, landOf props = some (L, W) ∧ biRectangleNested R L W bmin bx by_ = .ok nested ∧
      List.Forall₂ (fun dom od => ∀ f ∈ dom, ∀ p ∈ f,
          (∃ b ∈ props, ¬ InBand b p ∧ Odd (crossings b p)) →
          (∀ b ∈ nogosOf nogo, ¬ InBand b p ∧ Even (crossings b p)) →
          cutOf tol props (nogosOf nogo) f ∈ od ∧ p ∈ cutOf tol props (nogosOf nogo) f)
        nested out.1 := by
  obtain ⟨L, W, nested, h1, h2, h3, h4⟩ := kept_iff R bmin bx by_ props nogo out h
  refine ⟨L, W, nested, h1, h2, List.Forall₂.imp ?_ h3⟩
  intro dom od hod f hf p hp hin hout
  have hk : Kept tol props (nogosOf nogo) p := by
    rw [kept_meaning]
    obtain ⟨b, hb, hh⟩ := hin
    exact ⟨⟨b, hb, Or.inr hh⟩, hout⟩
  have hmem : p ∈ cutOf tol props (nogosOf nogo) f := (h4 f p).mpr ⟨hp, hk⟩
  refine ⟨?_, hmem⟩
  rw [hod, mem_stableSort, ← cutDom_eq, mem_cutDom]
  exact ⟨⟨f, hf, rfl⟩, fun he => by rw [he] at hmem; cases hmem⟩

/-- How far outside the lot a kept borehole can be.  A borehole that is not inside an outline
    is kept only in the tolerance band of an edge `e`; there its distance from the line of `e`
    (`|cross e p| / |e|`) is at most `√(tol·(2|e| + tol)) / 2`, and its projection on that line
    lies at most `tol/2` beyond either end of `e` (`(p − A)·(B − A) ≥ −tol·|e|/2`, same at `B`).
    For `tol = 0.01` and a 100 m edge that is 0.71 m (reached: see the `example` below) — the
    documented tolerance bounds the excess of the two focal distances, not the distance. -/
theorem band_extent (e : Edge) (p : Point)
    (h : |rdist e.1 p + rdist e.2 p - rdist e.1 e.2| < (tol : ℝ)) :
    4 * ((cross e p : ℚ) : ℝ) ^ 2 ≤ (rdist e.1 e.2) ^ 2 * ((tol : ℝ) * (2 * rdist e.1 e.2 + (tol : ℝ))) ∧
    -((tol : ℝ) * rdist e.1 e.2) ≤
      2 * (((p.1 - e.1.1) * (e.2.1 - e.1.1) + (p.2 - e.1.2) * (e.2.2 - e.1.2) : ℚ) : ℝ) ∧
    -((tol : ℝ) * rdist e.1 e.2) ≤
      2 * (((p.1 - e.2.1) * (e.1.1 - e.2.1) + (p.2 - e.2.2) * (e.1.2 - e.2.2) : ℚ) : ℝ) :=
  Constrained.band_extent tol e p h

/-! ### 4. the bounding rectangle; land and spacing (with C03) -/

/-- `length` / `width` handed to the grid generator are the largest vertex abscissa / ordinate
    over all outlines (attained), so with the schema's `coordinates ≥ 0` every property vertex
    lies in the gridded rectangle `[0, length] × [0, width]`.  (The minima are not used: the grid
    always starts at the origin.) -/
theorem bounding_rectangle (props : List Poly) (L W : Rat) (h : landOf props = some (L, W)) :
    (∀ b ∈ props, ∀ v ∈ b, v.1 ≤ L ∧ v.2 ≤ W) ∧
    (∃ b ∈ props, ∃ v ∈ b, v.1 = L) ∧ (∃ b ∈ props, ∃ v ∈ b, v.2 = W) ∧
    ((∀ b ∈ props, ∀ v ∈ b, 0 ≤ v.1 ∧ 0 ≤ v.2) → ∀ b ∈ props, InLand L W b) := by
  obtain ⟨h1, ⟨v, hv, e1⟩, ⟨w, hw, e2⟩⟩ := landOf_spec h
  rw [List.mem_flatten] at hv hw
  obtain ⟨b1, hb1, hv⟩ := hv
  obtain ⟨b2, hb2, hw⟩ := hw
  have h1' : ∀ b ∈ props, ∀ v ∈ b, v.1 ≤ L ∧ v.2 ≤ W :=
    fun b hb v hv => h1 v (List.mem_flatten.mpr ⟨b, hb, hv⟩)
  refine ⟨h1', ⟨b1, hb1, v, hv, e1⟩, ⟨b2, hb2, w, hw, e2⟩, ?_⟩
  intro hpos b hb v hv
  exact ⟨(hpos b hb v hv).1, (h1' b hb v hv).1, (hpos b hb v hv).2, (h1' b hb v hv).2⟩

/-- Exact grid (`R = id`), positive spacings, positive bounding rectangle: every returned field
    lies in `[0, length] × [0, width]`, has no coincident boreholes and keeps every pair at least
    `b_min` apart (C03's theorems survive the cut because a cut field is a sublist). -/
theorem constrained_on_land_and_spaced (bmin bx by_ : Rat) (props : List Poly) (nogo : Option Bounds)
    (out : List (List Field) × List (List Nat)) (hb : 0 < bmin) (hbx : 0 < bx) (hby : 0 < by_)
    (L W : Rat) (hland : landOf props = some (L, W)) (hL : 0 < L) (hW : 0 < W)
    (h : polygonalLandConstraint id bmin bx by_ (.many props) nogo Gen.plcKeepContourDefault = .ok out) :
    ∀ od ∈ out.1, ∀ g ∈ od, InLand L W g ∧ C03.Spaced bmin g := by
  obtain ⟨L', W', nested, h1, h2, h3⟩ := fields_subset_grid id bmin bx by_ props nogo out h
  rw [hland] at h1
  cases h1
  obtain ⟨ls, hls, hgood⟩ := C03.bi_rectangle_nested_good L W bmin bx by_ hb hbx hby hL hW
  rw [h2] at hls
  cases hls
  intro od hod g hg
  obtain ⟨dom, hdom, hh⟩ := forall₂_mem_right h3 od hod
  obtain ⟨f, hf, _, hsub⟩ := hh g hg
  obtain ⟨hin, hsep⟩ := hgood dom hdom f hf
  refine ⟨fun p hp => hin p (hsub.subset hp), C03.spaced_of_sep hb ?_⟩
  exact List.Pairwise.sublist hsub hsep

/-! ### 5. descriptors -/

/-
  Full statement of the design ("descriptors permuted identically"):
      every returned field is paired with the descriptor of the grid field it was cut from.
  FALSE of the code as soon as one field of a list lost all its boreholes: `reorder_domain` zips the
  shortened field list with the ORIGINAL descriptor list (witness: the `example` with the no-go square around the origin, last section).
  Proved: the statement for lists in which no field was dropped.
-/
/-- A list in which no field lost all its boreholes: the returned descriptor positions are the
    positions of the grid fields the returned fields were cut from, in the same order. -/
theorem descriptors_follow_fields_partial (R : Rat → Rat) (bmin bx by_ : Rat) (props : List Poly)
    (nogo : Option Bounds) (out : List (List Field) × List (List Nat))
    (h : polygonalLandConstraint R bmin bx by_ (.many props) nogo Gen.plcKeepContourDefault = .ok out) :
    ∃ L W nested, landOf props = some (L, W) ∧ biRectangleNested R L W bmin bx by_ = .ok nested ∧
      List.Forall₂ (fun dom (odd : List Field × List Nat) =>
          (∀ f ∈ dom, cutOf tol props (nogosOf nogo) f ≠ []) →
          odd.1 = odd.2.map (fun k => cutOf tol props (nogosOf nogo) (dom.getD k [])) ∧ odd.2.Perm (List.range dom.length))
        nested (List.zip out.1 out.2) := by
  obtain ⟨L, W, nested, h1, h2, h3⟩ := plc_ok h
  obtain ⟨_, e1, e2⟩ := plcCore_ok h3
  refine ⟨L, W, nested, h1, h2, ?_⟩
  rw [e1, e2, List.zip_map']
  exact forall₂_map_self.mpr fun dom _ hall => descriptors_of_list tol props (nogosOf nogo) dom hall

/-! ### 6. error branches -/

/-- The flat one-polygon form is rejected by `determine_largest_rectangle` (`for x, y in …` on a
    vertex → TypeError) when handed to `polygonal_land_constraint` directly … -/
theorem flat_property_raises (R : Rat → Rat) (bmin bx by_ : Rat) (v : Point) (vs : Poly) (nogo : Option Bounds)
    (kc : List Bool) :
    polygonalLandConstraint R bmin bx by_ (.single (v :: vs)) nogo kc = .error .typeError := rfl

/-- … and accepted through the constructor, which wraps it (both arguments): the design built
    from flat arguments is the design built from the one-element lists. -/
theorem constructor_wraps_flat_form (R : Rat → Rat) (bmin bx by_ : Rat) (p q : Poly) (kc : List Bool)
    (hp : p ≠ []) (hq : q ≠ []) :
    designConstrained R bmin bx by_ (.single p) (.single q) kc =
      polygonalLandConstraint R bmin bx by_ (.many [p]) (some (.many [q])) kc := by
  cases p with
  | nil => exact absurd rfl hp
  | cons v vs =>
    cases q with
    | nil => exact absurd rfl hq
    | cons w ws => rfl

/-- What is observed at `DesignBiRectangleConstrained.coordinates_domain_nested`: the constructor
    normalises both boundary arguments (flat form → one-element list, `[]` stays `[]`) and calls
    `polygonal_land_constraint`; every theorem above therefore applies to a design that was built,
    with `props = prop.norm` and `nogo = some (.many nogo.norm)`. -/
theorem design_is_constraint_on_normalised_arguments (R : Rat → Rat) (bmin bx by_ : Rat) (prop nogo : Bounds)
    (kc : List Bool) (out : List (List Field) × List (List Nat))
    (h : designConstrained R bmin bx by_ prop nogo kc = .ok out) :
    polygonalLandConstraint R bmin bx by_ (.many prop.norm) (some (.many nogo.norm)) kc = .ok out :=
  design_ok h

/-- A candidate list that loses all its fields makes the call raise (ValueError from the
    two-name unpacking of `reorder_domain`'s empty zip, or an earlier error): a run that returns
    has no empty list.  See the `example` below for the ValueError itself. -/
theorem all_fields_cut_raises (R : Rat → Rat) (bmin bx by_ : Rat) (props : List Poly) (nogo : Option Bounds)
    (L W : Rat) (nested : List (List Field)) (hland : landOf props = some (L, W))
    (hn : biRectangleNested R L W bmin bx by_ = .ok nested)
    (dom : List Field) (hdom : dom ∈ nested) (hcut : ∀ f ∈ dom, cutOf tol props (nogosOf nogo) f = []) :
    ∃ e, polygonalLandConstraint R bmin bx by_ (.many props) nogo Gen.plcKeepContourDefault = .error e := by
  cases hr : polygonalLandConstraint R bmin bx by_ (.many props) nogo Gen.plcKeepContourDefault with
  | error e => exact ⟨e, rfl⟩
  | ok out =>
    obtain ⟨L', W', nested', h1, h2, h3⟩ := plc_ok hr
    rw [hland] at h1
    cases h1
    rw [hn] at h2
    cases h2
    obtain ⟨hne, _, _⟩ := plcCore_ok h3
    exact absurd (cutDom_eq_nil_iff.mpr hcut) (hne dom hdom)

/-! ### Non-vacuity -/

/-- An L-shaped lot (reflex corner at (10, 10)), a building, and two thin no-go strips. -/
def lot : List Poly := [[(0, 0), (20, 0), (20, 10), (10, 10), (10, 20), (0, 20)]]
def building : Poly := [(3, 3), (7, 3), (7, 7), (3, 7)]
def strips : List Poly := [[(6, -1), (7, -1), (7, 21), (6, 21)], [(13, -1), (14, -1), (14, 21), (13, 21)]]

def sizesOf (r : Py (List (List Field) × List (List Nat))) : List (List Nat) :=
  match r with
  | .ok o => o.1.map (·.map List.length)
  | .error _ => []

def descsOf (r : Py (List (List Field) × List (List Nat))) : List (List Nat) :=
  match r with
  | .ok o => o.2
  | .error _ => []

def errOf (r : Py (List (List Field) × List (List Nat))) : Option PyErr :=
  match r with
  | .ok _ => none
  | .error e => some e

/-- The run returns: bounding rectangle 20 × 20, three candidate lists; the grid lists had sizes
    [1,2,3,6,9,12,15], [1,2,3,6,9,12,16,20], [1,2,3,6,9,12,15,20,25]: boreholes beyond the reflex
    corner and inside / on the contour of the building are gone, those on the lot's own contour
    are kept, every list is sorted. -/
theorem lot_building_sizes :
    sizesOf (polygonalLandConstraint id 5 10 10 (.many lot) (some (.single building)) Gen.plcKeepContourDefault) =
      [[1, 2, 3, 6, 8, 10, 13], [1, 2, 3, 6, 8, 10, 11, 15], [1, 2, 3, 6, 9, 11, 13, 15, 20]] := by
  decide +kernel

example : landOf lot = some (20, 20) ∧
    sizesOf (polygonalLandConstraint id 5 10 10 (.many lot) (some (.single building)) Gen.plcKeepContourDefault) =
      [[1, 2, 3, 6, 8, 10, 13], [1, 2, 3, 6, 8, 10, 11, 15], [1, 2, 3, 6, 9, 11, 13, 15, 20]] :=
  ⟨by decide +kernel, lot_building_sizes⟩

/-- `Kept` both ways on this lot: (10, 10) is on the lot's contour (kept), (20, 20) is outside
    the L (dropped), (5, 5) is inside the building (dropped), (7, 5) is on the building's contour
    (dropped), (15, 5) is strictly inside the lot and outside the building (kept). -/
example : keptB tol lot [building] (10, 10) = true ∧ keptB tol lot [building] (20, 20) = false ∧
    keptB tol lot [building] (5, 5) = false ∧ keptB tol lot [building] (7, 5) = false ∧
    keptB tol lot [building] (15, 5) = true ∧
    classify tol building (7, 5) = 0 ∧ classify tol building (5, 5) = 1 ∧ classify tol building (15, 5) = -1 := by
  decide +kernel

/-- The stable sort really reorders: with the two strips the 4-column field of the first list
    (grid position 5, 12 boreholes) loses two columns and a corner (→ 5) and moves in front of the
    3 × 2 field (position 3); the descriptor positions move with it; equal sizes stay in input
    order (second list: the two fields of 6 boreholes, position 3 before position 6). -/
example : sizesOf (polygonalLandConstraint id 5 10 10 (.many lot) (some (.many strips)) Gen.plcKeepContourDefault)
      = [[1, 2, 3, 5, 6, 8, 13], [1, 2, 3, 6, 6, 8, 10, 16], [1, 2, 3, 6, 8, 9, 11, 13, 21]] ∧
    descsOf (polygonalLandConstraint id 5 10 10 (.many lot) (some (.many strips)) Gen.plcKeepContourDefault)
      = [[0, 1, 2, 5, 3, 4, 6], [0, 1, 2, 3, 6, 4, 5, 7], [0, 1, 2, 3, 7, 4, 5, 6, 8]] := by
  decide +kernel

/-- Descriptors mis-aligned: the negation of the full descriptor statement on a concrete
    witness.  A no-go square around the origin removes the single-borehole field of every list
    (grid lists [1,2,4,6] and [1,2,4,6,9]); the surviving fields are the grid fields at positions
    1, 2, 3 (and 4) but are returned with the descriptor positions 0, 1, 2 (and 3). -/
example : sizesOf (polygonalLandConstraint id 10 20 20 (.many lot) (some (.single [(-1, -1), (1, -1), (1, 1), (-1, 1)]))
        Gen.plcKeepContourDefault) = [[1, 2, 4], [1, 3, 4, 7]] ∧
    descsOf (polygonalLandConstraint id 10 20 20 (.many lot) (some (.single [(-1, -1), (1, -1), (1, 1), (-1, 1)]))
        Gen.plcKeepContourDefault) = [[0, 1, 2], [0, 1, 2, 3]] := by
  decide +kernel

/-- Error branches are reachable: a lot away from the grid (no grid borehole inside) → every
    list loses all its fields → ValueError; no vertex → OverflowError (`.other`) or, with a zero
    spacing, ZeroDivisionError; an empty first outline → IndexError in `remove_cutout`; a too
    short `keep_contour` → IndexError. -/
example : errOf (polygonalLandConstraint id 5 10 10 (.many [[(1, 1), (8, 1), (9, 8), (1, 9)]]) none Gen.plcKeepContourDefault)
      = some .valueError ∧
    errOf (polygonalLandConstraint id 5 10 10 (.many []) none Gen.plcKeepContourDefault) = some .other ∧
    errOf (polygonalLandConstraint id 0 10 10 (.many [[]]) none Gen.plcKeepContourDefault) = some .zeroDiv ∧
    errOf (polygonalLandConstraint id 5 10 10 (.many ([] :: lot)) none Gen.plcKeepContourDefault) = some .indexError ∧
    errOf (polygonalLandConstraint id 5 10 10 (.many lot) (some (.single building)) [true]) = some .indexError := by
  decide +kernel

/-- `constrained_on_land_and_spaced`, `clearly_inside_not_dropped`: hypotheses satisfiable (the run
    above returns, spacings and rectangle are positive). -/
example : ∃ out, polygonalLandConstraint id 5 10 10 (.many lot) (some (.single building)) Gen.plcKeepContourDefault = .ok out := by
  cases h : polygonalLandConstraint id 5 10 10 (.many lot) (some (.single building)) Gen.plcKeepContourDefault with
  | ok out => exact ⟨out, rfl⟩
  | error e => have := lot_building_sizes; rw [h] at this; cases this

/-- `band_extent` is attained up to rounding: on a 100 m side the borehole 0.70 m OUTSIDE the lot
    is on-edge at the cut-out tolerance and therefore kept; 0.71 m outside is dropped
    (`√(0.01 · 200.01) / 2 = 0.7071`). -/
example : keptB tol [[(0, 0), (100, 0), (100, 100), (0, 100)]] [] (50, -7 / 10) = true ∧
    keptB tol [[(0, 0), (100, 0), (100, 100), (0, 100)]] [] (50, -71 / 100) = false ∧
    onBand tol ((0, 0), (100, 0)) (50, -7 / 10) = true := by decide +kernel

/-- The constructor path on flat arguments. -/
example : sizesOf (designConstrained id 10 20 20 (.single [(0, 0), (20, 0), (20, 10), (10, 10), (10, 20), (0, 20)])
      (.single building) Gen.plcKeepContourDefault) = [[1, 2, 3, 5], [1, 2, 4, 5, 8]] := by decide +kernel

end GHEVerif.C04
