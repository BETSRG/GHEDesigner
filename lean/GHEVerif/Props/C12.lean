/-
  C12 — Reported results are self-consistent and describe the returned design.
  The statement lists of `GHE.size` / `local_objective`, the attribute expressions the summary
  reads and the rows of the search log are regenerated from the source on every check
  (Gen/Report.lean, Gen/Funcs.lean); the theorems below are about those generated objects.
-/
import GHEVerif.Model.Report
import GHEVerif.Lemmas.Search
import GHEVerif.Lemmas.Pipeline

namespace GHEVerif.C12
open GHEVerif GHEVerif.Search GHEVerif.Report GHEVerif.Pipeline

/-- `GHE.size` is "set the mid height, solve, assign the returned height, simulate again" and the
    objective is "assign h, simulate, cost, return" — as regenerated from the source. -/
theorem size_statements :
    Gen.sizeOps = [.setMid, .solve, .setReturned, .simulate] ∧
    Gen.objectiveOps = [.setH, .simulate, .cost, .ret] := size_statements'

/-- The substantive one: whatever the excess function, the bracket, Brent's iterates and answer —
    bracketed root, clamp at minimum height, clamp at maximum height — after `GHE.size` the
    simulated temperatures held by the object were computed **at the height the object now has**,
    and that height is the one `solve_root` returned.  (False before the F6 repair: with a clamp at
    the lower bound the last simulation had been at the upper bound.) -/
theorem reported_temps_at_reported_height (f : Rat → Rat) (lo hi : Rat) (its : List Rat) (brent : Rat)
    (st st' : GState) (h : size f lo hi its brent st = .ok st') :
    st'.simAt = some st'.H ∧
      ∃ kind, solveRoot ((hi + lo) / 2) f lo hi brent = .ok (kind, st'.H) :=
  size_simAt f lo hi its brent st st' h

/-- The summary's borehole count is the number of bore-field rows, total drilling is count × height
    and the active length is the height — all read from the same live state. -/
theorem summary_consistent (coords : List (Rat × Rat)) (st : GState) :
    (summary coords st).numberOfBoreholes = (summary coords st).boreRows ∧
    (summary coords st).totalDrilling = (summary coords st).activeLength * ((summary coords st).numberOfBoreholes : Nat) ∧
    (summary coords st).activeLength = st.H := by
  simp [summary]

/-- The attribute expressions the real summary and bore-field table read are the ones `summary`
    models (regenerated from output.py: a change there breaks this theorem). -/
theorem summary_reads_live_state :
    Gen.summaryNbhExpr = "len(design.ghe.gFunction.bore_locations)" ∧
    Gen.summaryDrillingExpr = "add_with_units(design.ghe.bhe.b.H * len(design.ghe.gFunction.bore_locations), 'm')" ∧
    Gen.summaryLengthExpr = "add_with_units(design.ghe.bhe.b.H, 'm')" ∧
    Gen.summaryMaxEftDef = "max(design.ghe.hp_eft)" ∧ Gen.summaryMinEftDef = "min(design.ghe.hp_eft)" ∧
    Gen.summaryMaxEftExpr = "add_with_units(max_eft, 'C')" ∧ Gen.summaryMinEftExpr = "add_with_units(min_eft, 'C')" ∧
    Gen.boreRowsIterExpr = "design.ghe.gFunction.bore_locations" ∧
    Gen.boreRowExpr = "csv_array.append([bore_location[0], bore_location[1]])" :=
  ⟨rfl, rfl, rfl, rfl, rfl, rfl, rfl, rfl, rfl⟩

/-- Every search-log row is `[field, cost(max, min), max, min]` with the cost computed from the very
    temperatures logged, in both search classes. -/
theorem log_row_statements :
    Gen.logRow1D = Gen.logRowRW ∧
    Gen.logRow1D.getD 2 "" = "t_excess = self.ghe.cost(max_hp_eft, min_hp_eft)" ∧
    Gen.logRow1D.getD 3 "" = "self.searchTracker.append([field_specifier, t_excess, max_hp_eft, min_hp_eft])" :=
  ⟨rfl, rfl, rfl⟩

/-- `cost` (regenerated from BaseGHE.cost) is `max(max EFT − upper limit, lower limit − min EFT)`. -/
theorem log_row_excess (hiA loA mx mn : Rat) :
    Gen.cost hiA loA mx mn = ratMax (mx - hiA) (loA - mn) := rfl

/-- Consequence for the excess sign: a row's excess is ≤ 0 exactly when both limits are kept. -/
theorem excess_nonpos_iff (hiA loA mx mn : Rat) :
    Gen.cost hiA loA mx mn ≤ 0 ↔ mx ≤ hiA ∧ loA ≤ mn := by
  rw [log_row_excess, ratMax_eq_max, max_le_iff, sub_nonpos, sub_nonpos]

/-- The same at the level of `GHEManager.find_design`, for every design method and every outcome of
    the search: the temperatures the returned object holds were simulated at exactly the height a
    summary of its state reports as active length.  The other two conjuncts hold of `summary` for every
    state and coordinate list (`summary_consistent`); `coords` is arbitrary here. -/
theorem find_design_summary_describes_design {α β : Type} (search : SearchRes α β) (E : α → Rat → Rat) (minH maxH : Rat)
    (f : α → Rat → Rat) (its : α → List Rat) (brent : α → Rat) (d : DesignG α β) (coords : List (Rat × Rat))
    (hres : findDesignG search E minH maxH f its brent = .design d) :
    d.st.simAt = some (summary coords d.st).activeLength ∧
    (summary coords d.st).totalDrilling = d.st.H * ((summary coords d.st).boreRows : Nat) ∧
    (summary coords d.st).numberOfBoreholes = coords.length := by
  simp [summary, (findDesignG_design hres).2.1]

/-- Non-vacuity: both ends feasible (clamp at the minimum height 60): the last Brent-stage
    evaluation was at 135, yet the object ends simulated at 60. -/
example :
    size (fun h => if h = 60 then -1 else -2) 60 135 [] 100 { H := 96, simAt := none, returned := 0 }
      = .ok { H := 60, simAt := some 60, returned := 60 } := by decide +kernel

end GHEVerif.C12
