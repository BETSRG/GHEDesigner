/-
  C14 — RowWise on convex lots terminates, stays inside, keeps spacing, fills the lot; the sweep
  returns the densest tried rotation; translating the lot translates the field.

  Property theorems only, about the executable model GHEVerif/Model/RowWise.lean (outline without
  no-go zones and without perimeter spacing; the rotation is an exact pair `(c, s)` with
  `c² + s² = 1`).  Tolerances and factors are the
  `Gen.RowWise` constants regenerated from rowwise.py / shape.py on every check
  (`constants_as_modelled` breaks when one of them changes).

  The outline is any vertex list and the spacings are arbitrary.  Hypotheses that are not in the property text:
  `NoBand c s` (termination, inside): the rows are not declared vertical without being vertical (`noBand_of_far`);
  `rowsSimple` (inside): decidable, true on every compared convex outline;  non-negative coordinates before and after
  the shift (translation): `yp` changes sign with `x`;  the rectangle theorems are for rotation `(1, 0)`.
-/
import GHEVerif.Lemmas.RowWise

namespace GHEVerif.C14
open GHEVerif GHEVerif.RowWise

/-- The constants of the source as the model has them.  The last three are tripwires: the model does not read the two
    Booleans (`sweepStep`, `keyLe` have them written out), and the last conjunct accepts both tests for a vertical row. -/
theorem constants_as_modelled :
    Gen.RowWise.distributeTol = 1 / 100000000 ∧ Gen.RowWise.dupFactor = 1 / 10 ∧
    Gen.RowWise.sweepDupFactor = 6 / 5 ∧ Gen.RowWise.pointShift = 1000 ∧ Gen.RowWise.farShift = 10 ∧
    Gen.RowWise.farStep = 1 ∧ Gen.RowWise.lineIntersectTol = 1 / 1000000 ∧ Gen.RowWise.genDefaultTol = 1 / 1000000 ∧
    Gen.RowWise.foptDefaultTol = 1 / 100000 ∧ Gen.RowWise.sweepStartDeg = -90 ∧
    Gen.RowWise.sweepKeepsStrictlyLarger = true ∧ Gen.RowWise.sortKeyIsProjection = true ∧
    (Gen.RowWise.verticalRowRatio = 0 ∨ Gen.RowWise.verticalRowRatio = 1 / 1000000000000) := by
  decide +kernel

/-- The model's `rowDist` (used where the code takes `sqrt` of a squared distance between two points of
    one row) is the Euclidean distance: its square is `sum_sq_dist`. -/
theorem rowDist_is_euclidean (c s : Rat) (h : c * c + s * s = 1) (p : Pt) (t : Rat) :
    rowDist c s p (along c s p t) * rowDist c s p (along c s p t) = sqDist p (along c s p t) ∧
    0 ≤ rowDist c s p (along c s p t) :=
  ⟨rowDist_sq c s h p t, rowDist_nonneg c s _ _⟩

/-! ### termination -/

/-- **Generation terminates.**  For every outline, spacing `> 0`, tolerance `≥ 0` and exact rotation,
    `gen_borehole_config` never enters the unbounded `distribute` loop without leaving it
    (`.error .other` is the model's "does not return"): intersections lie on the row and are sorted along it, so
    `distribute` is called with its end point ahead of its start point (or less than one spacing behind it). -/
theorem gen_terminates (poly : List Pt) (ySpace xSpace c s tol : Rat) (h : c * c + s * s = 1)
    (hband : NoBand c s) (hs : 0 < xSpace) (htol : 0 ≤ tol) :
    genBoreholeConfig poly ySpace xSpace c s tol ≠ .error .other :=
  (genBoreholeConfig_mem poly ySpace xSpace c s tol h hband hs htol).1

/-- With the source test `row_space[1] == 0` (`K = 0`) `NoBand` holds for every rotation; with the test
    `… <= 1e-12 * …` the hypothesis is false and `noBand_of_far` is the statement to use. -/
theorem noBand_of_ratio_zero (c s : Rat) (hK : Gen.RowWise.verticalRowRatio = 0) : NoBand c s := by
  unfold NoBand
  rw [hK, zero_mul]
  by_cases hc : c = 0
  · exact Or.inl hc
  · exact Or.inr (abs_pos.mpr hc)

/-- `NoBand c s` (`c = 0 ∨ K·|s| < |c|`) holds as soon as `|c| = |cos rotate| ≥ 10⁻⁶` (any bound above `K ≤ 10⁻¹²`
    would do). -/
theorem noBand_of_far (c s : Rat) (h : c * c + s * s = 1) (hc : 1 / 1000000 ≤ |c|) : NoBand c s := by
  have hK : Gen.RowWise.verticalRowRatio < 1 / 1000000 := by
    unfold Gen.RowWise.verticalRowRatio; norm_num
  have hs1 : |s| ≤ 1 := abs_le_one_iff_mul_self_le_one.mpr (by linarith [mul_self_nonneg c])
  exact Or.inr (lt_of_le_of_lt (mul_le_of_le_one_right verticalRowRatio_nonneg hs1) (lt_of_lt_of_le hK hc))

/-- The rotation sweep over any list of exact rotations never runs out of fuel either. -/
theorem sweep_terminates (poly : List Pt) (space tol : Rat) (hs : 0 < space) (htol : 0 ≤ tol)
    (rots : List (Rat × Rat)) (hrots : ∀ r ∈ rots, r.1 * r.1 + r.2 * r.2 = 1 ∧ NoBand r.1 r.2) :
    fieldOptimizationFr poly space tol rots ≠ .error .other := by
  rw [fieldOptimizationFr_eq_bind]
  refine (Returns.bind' (Q := fun _ => True) (R := fun _ => True) ⟨sweepLoop_ne_other _ rots 0 (0, none) fun r hr =>
    gen_terminates poly space space r.1 r.2 tol (hrots r hr).1 (hrots r hr).2 hs htol, fun _ _ => trivial⟩ fun b _ => ?_).1
  rcases b with ⟨n, _ | ⟨i, hole⟩⟩
  · exact .error nofun
  · exact .ok trivial

/-- Regression witnesses of finding F14 (lots with an edge on the y-axis / a corner at the origin, rows at
    -90°): the model returns fields, as the repaired code does. -/
example : (genBoreholeConfig [(0, 0), (60, 0), (60, 30), (0, 30)] 7 7 0 (-1) (1 / 100000)).toOption.map List.length = some 45 := by
  decide +kernel
example : (genBoreholeConfig [(0, 0), (50, 0), (0, 40)] 7 7 0 (-1) (1 / 100000)).toOption.map List.length = some 27 := by
  decide +kernel
/-- Witness of finding `spacing-rot-minus90-on-vertical-edge` in the model: at the exact rotation -90° the
    31 × 108 rectangle with 16.541 m target spacing gets the 2 × 7 lattice, rows on its vertical edges (what the
    code returns once a negligible cosine makes a vertical row; with `row_space[1] == 0` the float code has
    cos = 6e-17 there and returns boreholes 2 m apart). -/
example : (genBoreholeConfig [(77 / 2, 0), (77 / 2, 108), (15 / 2, 108), (15 / 2, 0)] (16541 / 1000) (16541 / 1000) 0 (-1)
    (1 / 100000)).toOption.map List.length = some 14 ∧ NoBand 0 (-1) :=
  ⟨by decide +kernel, Or.inl rfl⟩

/-- The F14 mechanism in the model: with the end points of a row in the reversed order (what the former
    polar sort key produced for an intersection at x = -1e-15) `distribute` never returns. -/
example : distribute 0 (-1) 7 (0, 0) (0, 30) [] = .error .other := by decide +kernel
example : distribute 0 (-1) 7 (0, 30) (0, 0) [] = .ok [(0, 0), (0, 15 / 2), (0, 15), (0, 45 / 2), (0, 30)] := by decide +kernel

/-! ### distribute: count, equal steps ≥ spacing, end points -/

/-- **`distribute`** between a start point and an end point `dx ≥ spacing` ahead on the row adds exactly
    the `n + 1` points `x1 + i·(dx/n)·(cos, sin)`, `i = 0 … n`, `n = ⌊dx/spacing⌋`: the first is the start
    point, the last is the end point, the common step `dx/n` is at least the spacing, and any two of the
    points are at least the spacing apart. -/
theorem distribute_count_spacing (c s spacing : Rat) (h : c * c + s * s = 1) (hs : 0 < spacing)
    (htol : Gen.RowWise.distributeTol ≤ spacing) (x1 : Pt) (dx : Rat) (hdx : spacing ≤ dx)
    (acc : List Pt) (hacc : acc.head? ≠ some x1) :
    let n := (dx / spacing).floor.toNat
    let step := dx / ((dx / spacing).floor : Rat)
    let pts := (List.range (n + 1)).map (fun i : Nat => along c s x1 ((i : Rat) * step))
    distribute c s spacing x1 (along c s x1 dx) acc = .ok (pts.reverse ++ acc) ∧
      pts.length = n + 1 ∧ 1 ≤ n ∧ spacing ≤ step ∧
      pts.head? = some x1 ∧ pts.getLast? = some (along c s x1 dx) ∧
      ∀ i j : Nat, i < j → j ≤ n →
        spacing * spacing ≤ sqDist (along c s x1 ((i : Rat) * step)) (along c s x1 ((j : Rat) * step)) := by
  have hclosed := distribute_closed c s spacing h hs htol x1 dx hdx acc hacc
  obtain ⟨m, hm, hm1, hstep, hmul⟩ := floor_steps dx spacing hs hdx
  rw [hm, Int.toNat_natCast, Int.cast_natCast] at hclosed ⊢
  refine ⟨hclosed, by rw [List.length_map, List.length_range], hm1, hstep, ?_, ?_, fun i j hij _ => ?_⟩
  · rw [List.head?_map, List.head?_range, if_neg (Nat.succ_ne_zero m)]; simp
  · rw [List.getLast?_map, List.getLast?_range, if_neg (Nat.succ_ne_zero m)]
    simp only [Option.map_some, Nat.add_sub_cancel, hmul]
  · rw [along_sqDist c s h]
    exact sq_le_sq_steps spacing _ i j hs.le hstep hij

/-- Non-vacuity: from (0, 0) along the row of direction (3/5, 4/5) to the point 20 m ahead with spacing 7:
    `⌊20/7⌋ = 2` steps of 10 m, three points. -/
example : distribute (3 / 5) (4 / 5) 7 (0, 0) (12, 16) [] = .ok [(12, 16), (6, 8), (0, 0)] := by decide +kernel

/-! ### rows -/

/-- **Rows.**  With `ySpace > 0`, when the row plan exists the rows start at a vertex of least `yp`
    (`yp v = v.y·c − v.x·s` for `x > 0`), span exactly the `yp`-extent `hi − lo` of the outline in
    `numRows = ⌊(hi − lo)/ySpace⌋ ≥ 1` equal steps `(hi − lo)/numRows ≥ ySpace`, taken along the
    normal `(−s, c)` of the rows (a unit vector when `c² + s² = 1`, which the statement does not need). -/
theorem rows_spacing (poly : List Pt) (c s ySpace : Rat) (hy : 0 < ySpace) (numRows : Int) (lowest : Pt) (rs0 rs1 : Rat)
    (hp : rowPlan poly c s ySpace = .ok (numRows, lowest, rs0, rs1)) :
    ∃ lo hi, (∀ v ∈ poly, lo ≤ ypOf c s v ∧ ypOf c s v ≤ hi) ∧ lowest ∈ poly ∧ ypOf c s lowest = lo ∧
      (∃ hv ∈ poly, ypOf c s hv = hi) ∧
      numRows = ((hi - lo) / ySpace).floor ∧ 1 ≤ numRows ∧
      ySpace ≤ (hi - lo) / (numRows : Rat) ∧ (numRows : Rat) * ((hi - lo) / (numRows : Rat)) = hi - lo ∧
      rs0 = -((hi - lo) / (numRows : Rat)) * s ∧ rs1 = (hi - lo) / (numRows : Rat) * c := by
  obtain ⟨lo, hi, hv, hext, _, hnr, hnr0, h0, h1⟩ := rowPlan_eq_ok poly c s ySpace numRows lowest rs0 rs1 hp
  obtain ⟨hlv, hhv, hl, hhh, hall⟩ := extremes_spec c s poly lo hi lowest hv hext
  have hd : 0 ≤ hi - lo := sub_nonneg.mpr ((hall lowest hlv).1.trans (hall lowest hlv).2)
  have hfl : 0 ≤ ((hi - lo) / ySpace).floor := Rat.le_floor_iff.mpr (div_nonneg hd hy.le)
  have hn1 : 1 ≤ numRows := by omega
  have hnq : (0 : Rat) < (numRows : Rat) := Int.cast_pos.mpr hn1
  refine ⟨lo, hi, hall, hlv, hl, ⟨hv, hhv, hhh⟩, hnr, hn1, ?_, mul_div_cancel₀ _ hnq.ne', by rw [h0, neg_one_mul], h1⟩
  rw [le_div_iff₀ hnq, mul_comm, ← le_div_iff₀ hy, hnr]
  exact Int.floor_le _

/-- A lot narrower than one row spacing has no row plan: `ZeroDivisionError`, as in the code. -/
example : rowPlan [(0, 0), (20, 0), (20, 4), (0, 4)] 1 0 7 = .error .zeroDiv := by decide +kernel
example : rowPlan [(0, 0), (60, 0), (60, 30), (0, 30)] 1 0 7 = .ok (4, (0, 0), 0, 15 / 2) := by decide +kernel

/-! ### rectangle lattice -/

/-- **Rectangle.**  An axis-aligned `W × H` lot (non-negative corner, `W, H ≥ sp`) at rotation 0 receives
    exactly the `(⌊W/sp⌋ + 1) × (⌊H/sp⌋ + 1)` lattice: rows bottom to top at spacing `H/⌊H/sp⌋`, boreholes
    left to right at spacing `W/⌊W/sp⌋`, first and last on the outline. -/
theorem rect_lattice (x0 y0 W H sp tol : Rat) (hx : 0 ≤ x0) (hy : 0 ≤ y0) (hs : 0 < sp)
    (hW : sp ≤ W) (hH : sp ≤ H) (ht0 : 0 ≤ tol) (htW : tol < W)
    (hdt : Gen.RowWise.distributeTol ≤ sp) :
    genBoreholeConfig (rectPoly x0 y0 W H) sp sp 1 0 tol
      = .ok (lattice x0 y0 W H (W / sp).floor.toNat (H / sp).floor.toNat) :=
  RowWise.rect_lattice x0 y0 W H sp tol hx hy hs hW hH ht0 htW hdt

theorem rect_lattice_count (x0 y0 W H sp tol : Rat) (hx : 0 ≤ x0) (hy : 0 ≤ y0) (hs : 0 < sp)
    (hW : sp ≤ W) (hH : sp ≤ H) (ht0 : 0 ≤ tol) (htW : tol < W)
    (hdt : Gen.RowWise.distributeTol ≤ sp) :
    ∃ l, genBoreholeConfig (rectPoly x0 y0 W H) sp sp 1 0 tol = .ok l ∧
      l.length = ((W / sp).floor.toNat + 1) * ((H / sp).floor.toNat + 1) :=
  RowWise.rect_lattice_count x0 y0 W H sp tol hx hy hs hW hH ht0 htW hdt

/-- The boundary of the column count: a lot EXACTLY `k ≥ 1` spacings wide gets `k + 1` columns (in particular a
    lot exactly one spacing wide gets two columns, not one: the single-borehole rule of `gen_borehole_config`
    applies to chords strictly shorter than the spacing). -/
theorem rect_lattice_exact_width (x0 y0 H sp tol : Rat) (k : Nat) (hk : 1 ≤ k) (hx : 0 ≤ x0) (hy : 0 ≤ y0) (hs : 0 < sp)
    (hH : sp ≤ H) (ht0 : 0 ≤ tol) (htW : tol < (k : Rat) * sp)
    (hdt : Gen.RowWise.distributeTol ≤ sp) :
    genBoreholeConfig (rectPoly x0 y0 ((k : Rat) * sp) H) sp sp 1 0 tol
      = .ok (lattice x0 y0 ((k : Rat) * sp) H k (H / sp).floor.toNat) := by
  have hk1 : (1 : Rat) ≤ (k : Rat) := by exact_mod_cast hk
  have hW : sp ≤ (k : Rat) * sp := le_mul_of_one_le_left hs.le hk1
  have hfl : ((k : Rat) * sp / sp).floor.toNat = k := by
    rw [mul_div_assoc, div_self (ne_of_gt hs), mul_one]
    exact floor_toNat_eq _ k le_rfl (lt_add_one _)
  have := rect_lattice x0 y0 ((k : Rat) * sp) H sp tol hx hy hs hW hH ht0 htW hdt
  rwa [hfl] at this

/-- Boundary witnesses: lots exactly one spacing wide (10 × 55 at 10 m, 12.5 × 70 at 12.5 m, 7.5 × 40 at 7.5 m)
    get 2 × 6 boreholes. -/
example : genBoreholeConfig (rectPoly 10 10 10 55) 10 10 1 0 (1 / 100000) = .ok (lattice 10 10 10 55 1 5) := by
  have h := rect_lattice 10 10 10 55 10 (1 / 100000) (by norm_num) (by norm_num) (by norm_num) le_rfl (by norm_num)
    (by norm_num) (by norm_num) (by unfold Gen.RowWise.distributeTol; norm_num)
  rwa [floor_toNat_eq (10 / 10) 1 (by norm_num) (by norm_num), floor_toNat_eq (55 / 10) 5 (by norm_num) (by norm_num)] at h
example : (genBoreholeConfig (rectPoly 3 4 (25 / 2) 70) (25 / 2) (25 / 2) 1 0 (1 / 100000)).toOption.map List.length = some 12 := by
  obtain ⟨l, hl, hlen⟩ := rect_lattice_count 3 4 (25 / 2) 70 (25 / 2) (1 / 100000) (by norm_num) (by norm_num) (by norm_num)
    le_rfl (by norm_num) (by norm_num) (by norm_num) (by unfold Gen.RowWise.distributeTol; norm_num)
  rw [floor_toNat_eq (25 / 2 / (25 / 2)) 1 (by norm_num) (by norm_num),
    floor_toNat_eq (70 / (25 / 2)) 5 (by norm_num) (by norm_num)] at hlen
  rw [hl]; exact congrArg some hlen
example : (genBoreholeConfig (rectPoly 5 5 (15 / 2) 40) (15 / 2) (15 / 2) 1 0 (1 / 100000)).toOption.map List.length = some 12 := by
  obtain ⟨l, hl, hlen⟩ := rect_lattice_count 5 5 (15 / 2) 40 (15 / 2) (1 / 100000) (by norm_num) (by norm_num) (by norm_num)
    le_rfl (by norm_num) (by norm_num) (by norm_num) (by unfold Gen.RowWise.distributeTol; norm_num)
  rw [floor_toNat_eq (15 / 2 / (15 / 2)) 1 (by norm_num) (by norm_num),
    floor_toNat_eq (40 / (15 / 2)) 5 (by norm_num) (by norm_num)] at hlen
  rw [hl]; exact congrArg some hlen
/-- … while a lot one part in 10⁹ narrower than the spacing gets a single column. -/
example : (genBoreholeConfig (rectPoly 0 0 (10 - 1 / 1000000000) 55) 10 10 1 0 (1 / 100000)).toOption.map List.length = some 6 := by
  decide +kernel

/-- Non-vacuity: the 60 × 30 lot with 7 m target spacing gets the 9 × 5 lattice. -/
example : genBoreholeConfig (rectPoly 0 0 60 30) 7 7 1 0 (1 / 100000) = .ok (lattice 0 0 60 30 8 4) := by
  have h := rect_lattice 0 0 60 30 7 (1 / 100000) le_rfl le_rfl (by norm_num) (by norm_num) (by norm_num)
    (by norm_num) (by norm_num) (by unfold Gen.RowWise.distributeTol; norm_num)
  rwa [floor_toNat_eq (60 / 7) 8 (by norm_num) (by norm_num), floor_toNat_eq (30 / 7) 4 (by norm_num) (by norm_num)] at h

/-! ### inside -/

/-- **Inside.**  Every borehole satisfies every linear inequality `a x + b y ≤ β` that all vertices of the
    outline satisfy, up to `tol (|a| + |b|)`: it lies in the convex hull of the outline widened by the
    intersection tolerance — for a convex outline, inside or on the outline.  `rowsSimple` (decidable): an even
    number of intersections of a row means at most two (true for a convex outline). -/
theorem inside_convex (poly : List Pt) (ySpace xSpace c s tol : Rat) (h : c * c + s * s = 1)
    (hband : NoBand c s) (hs : 0 < xSpace) (htol : 0 ≤ tol) (hsimple : rowsSimple poly ySpace c s tol = true) (a b β : Rat)
    (hpoly : ∀ v ∈ poly, a * v.1 + b * v.2 ≤ β) (field : List Pt)
    (hr : genBoreholeConfig poly ySpace xSpace c s tol = .ok field) :
    ∀ p ∈ field, a * p.1 + b * p.2 ≤ β + tol * (|a| + |b|) := by
  intro p hp
  obtain ⟨_, _, _, _, _, k, _, hc⟩ :=
    (genBoreholeConfig_mem poly ySpace xSpace c s tol h hband hs htol).2 field hr hsimple p hp
  exact hc.convex (halfplane_rowConvex c s a b _) (rawIntersections_halfplane tol htol poly _ a b β hpoly)

/-- Non-vacuity: a convex pentagon at the Pythagorean rotation (4/5, -3/5) has simple rows and a
    non-empty field. -/
example : rowsSimple [(40, 0), (70, 40), (100, 120), (10, 120), (10, 40)] 20 (4 / 5) (-3 / 5) (1 / 100000) = true ∧
    (genBoreholeConfig [(40, 0), (70, 40), (100, 120), (10, 120), (10, 40)] 20 20 (4 / 5) (-3 / 5) (1 / 100000)).toOption.map List.length
      = some 20 := by
  constructor <;> decide +kernel

/-! ### densest rotation -/

/-- **Densest rotation.**  The field returned by the sweep is the duplicate-filtered field of a tried rotation
    with the largest number of boreholes among all tried rotations, and the first such rotation on ties. -/
theorem sweep_argmax (poly : List Pt) (space tol : Rat) (rots : List (Rat × Rat)) (idx : Nat) (field : List Pt)
    (hr : fieldOptimizationFr poly space tol rots = .ok (idx, field)) :
    ∃ r hole, rots[idx]? = some r ∧ genBoreholeConfig poly space space r.1 r.2 tol = .ok hole ∧ 0 < hole.length ∧
      field = removeDuplicates (space * Gen.RowWise.sweepDupFactor) hole ∧
      (∀ (j : Nat) (r' : Rat × Rat) (h : List Pt), rots[j]? = some r' →
        genBoreholeConfig poly space space r'.1 r'.2 tol = .ok h → h.length ≤ hole.length) ∧
      (∀ (j : Nat) (r' : Rat × Rat) (h : List Pt), j < idx → rots[j]? = some r' →
        genBoreholeConfig poly space space r'.1 r'.2 tol = .ok h → h.length < hole.length) := by
  rw [fieldOptimizationFr_eq_bind] at hr
  obtain ⟨⟨n, _ | ⟨i, hole⟩⟩, hsw, hb⟩ := Py.bind_eq_ok.mp hr
  · cases hb
  cases hb
  obtain ⟨r, hri, hgr, hpos, hmax, hfirst⟩ := sweepLoop_argmax _ rots n idx hole hsw
  exact ⟨r, hole, hri, hgr, hpos, rfl, hmax, hfirst⟩

/-- Non-vacuity: on the triangle (0,0),(50,0),(0,40) the rotations -90°, 0°, 90° give 27, 25 and 27
    boreholes; the sweep returns index 0 (the first of the two densest). -/
example : (fieldOptimizationFr [(0, 0), (50, 0), (0, 40)] 7 (1 / 100000) [(0, -1), (1, 0), (0, 1)]).toOption.map
    (fun r => (r.1, r.2.length)) = some (0, 27) := by decide +kernel

/-! ### translation -/

/-- **Translation.**  Translating an outline with non-negative coordinates to another position with
    non-negative coordinates translates the generated field rigidly (same boreholes, same order). -/
theorem translate_equivariant (t : Pt) (poly : List Pt) (ySpace xSpace c s tol : Rat)
    (htol : 0 ≤ tol)
    (hpos : ∀ v ∈ poly, 0 ≤ v.1 ∧ 0 ≤ v.2)
    (hpos' : ∀ v ∈ poly, 0 ≤ v.1 + t.1 ∧ 0 ≤ v.2 + t.2) :
    genBoreholeConfig (poly.map (shift t)) ySpace xSpace c s tol
      = (genBoreholeConfig poly ySpace xSpace c s tol).map (List.map (shift t)) := by
  unfold genBoreholeConfig
  rw [tr_rowPlan t poly c s ySpace hpos hpos']
  cases rowPlan poly c s ySpace with
  | error e => rfl
  | ok r =>
    obtain ⟨numRows, lowest, rs0, rs1⟩ := r
    have h := tr_rowsLoop poly c s tol xSpace htol t lowest rs0 rs1 (List.range (numRows + 1).toNat) []
    simp only [Except.map, List.map_nil] at h ⊢
    rw [h]
    cases rowsLoop poly c s tol xSpace lowest rs0 rs1 (List.range (numRows + 1).toNat) [] with
    | error e => rfl
    | ok acc => simp only [← List.map_reverse, tr_removeDuplicates]

/-- … and so does the rotation sweep (same chosen rotation). -/
theorem sweep_translate_equivariant (t : Pt) (poly : List Pt) (space tol : Rat)
    (htol : 0 ≤ tol)
    (hpos : ∀ v ∈ poly, 0 ≤ v.1 ∧ 0 ≤ v.2)
    (hpos' : ∀ v ∈ poly, 0 ≤ v.1 + t.1 ∧ 0 ≤ v.2 + t.2)
    (rots : List (Rat × Rat)) :
    fieldOptimizationFr (poly.map (shift t)) space tol rots
      = (fieldOptimizationFr poly space tol rots).map (fun r => (r.1, r.2.map (shift t))) := by
  -- the initial best `(0, none)` is its own translate
  have h : sweepLoop (fun r => genBoreholeConfig (poly.map (shift t)) space space r.1 r.2 tol) rots 0 (0, none)
      = (sweepLoop (fun r => genBoreholeConfig poly space space r.1 r.2 tol) rots 0 (0, none)).map (shiftBest t) :=
    tr_sweepLoop t _ _ (fun r => translate_equivariant t poly space space r.1 r.2 tol htol hpos hpos') rots 0 (0, none)
  unfold fieldOptimizationFr
  rw [h]
  rcases sweepLoop (fun r => genBoreholeConfig poly space space r.1 r.2 tol) rots 0 (0, none)
    with e | ⟨n, _ | ⟨idx, hole⟩⟩
  · rfl
  · rfl
  · simp only [Except.map, shiftBest, Option.map_some, tr_removeDuplicates]

/-- Non-vacuity (and the reason for the sign hypothesis): the model's `yp` is `−(y c − x s)` for `x < 0`, as
    `atan(y/x)` makes it in the code, so a lot moved across the y-axis is not covered. -/
example : genBoreholeConfig ([(0, 0), (50, 0), (0, 40)].map (shift (13, 4))) 7 7 (3 / 5) (4 / 5) (1 / 100000)
    = (genBoreholeConfig [(0, 0), (50, 0), (0, 40)] 7 7 (3 / 5) (4 / 5) (1 / 100000)).map (List.map (shift (13, 4))) :=
  translate_equivariant (13, 4) _ 7 7 (3 / 5) (4 / 5) (1 / 100000) (by norm_num) (by decide +kernel) (by decide +kernel)

/-! ### spacing (partial)

  Full statement of the property: for every outline, any two boreholes of
  `genBoreholeConfig poly sp sp c s tol` are at least `sp` apart:
      ∀ field, genBoreholeConfig poly sp sp c s tol = .ok field →
        field.Pairwise (fun p q => sp * sp ≤ sqDist p q).
  This is FALSE of the model and of the code (`spacing_full_fails_on_kite`, finding "row through a vertex
  with a chord shorter than the spacing", reproduced on the implementation by the harness).  Proved:
  within one `distribute` run all points are ≥ spacing apart (`distribute_count_spacing`), consecutive
  rows are `(hi − lo)/numRows ≥ ySpace` apart along the row normal (`rows_spacing`), the rectangle lattice
  (`rect_lattice`), and the remaining duplicate filter guarantee below. -/

/-- What the final duplicate filter guarantees for every outline: any two boreholes it keeps are at least
    `dupFactor · spacing` apart.  The statement is about `removeDupAux` on any list; `removeDuplicates space` is it
    with `tolSq = (space · dupFactor)²`, and a generated field is such a list (`genBoreholeConfig_eq_bind`). -/
theorem spacing_partial (tolSq : Rat) (l : List Pt) :
    (removeDupAux tolSq [] l).Pairwise (fun p q => tolSq ≤ sqDist p q) :=
  (removeDupAux_pairwise tolSq l []).1

/-- The full spacing statement fails: on the convex kite (3,0),(6,10),(3,20),(1,12) with 10 m spacing at
    rotation 0 the row y = 10 passes through the vertex (6,10); the chord (4.67 m) is shorter than the
    spacing, and both its midpoint (11/3, 10) and the vertex are kept, 2.33 m apart. -/
theorem spacing_full_fails_on_kite :
    ∃ field p q, genBoreholeConfig [(3, 0), (6, 10), (3, 20), (1, 12)] 10 10 1 0 (1 / 100000) = .ok field ∧
      p ∈ field ∧ q ∈ field ∧ p ≠ q ∧ sqDist p q < 10 * 10 :=
  ⟨[(3, 0), (11 / 3, 10), (6, 10), (3, 20)], (11 / 3, 10), (6, 10), by decide +kernel, by decide +kernel, by decide +kernel,
    by decide +kernel, by decide +kernel⟩

end GHEVerif.C14
