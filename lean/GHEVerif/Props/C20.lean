/-
  C20 — Per-borehole and system flow specifications are equivalent.
  Property theorems only; helper lemmas live in GHEVerif/Lemmas/Flow.lean.

  All theorems are about definitions regenerated from the source on every check:
  `Gen.retrieveFlow1D`, `Gen.retrieveFlowRW` (the two copies of `retrieve_flow` in
  search_routines.py), `Gen.baseGheFlow` (the flow slice of `BaseGHE.__init__` in
  ground_heat_exchangers.py), `Gen.flowWiring` / `Gen.flowDefiners` (which expressions
  `initialize_ghe` hands to the g-function calculation and to `GHE(...)`), composed by
  `Flow.initializeGhe` exactly in the order `initialize_ghe` composes them.  A source change to any
  of them changes the generated text and these proofs are re-checked against it.

  Quantifiers: every flow rate `v : ℚ` (every IEEE double is one), every density `rho`, every
  field (list of coordinates of any length ≥ 1, not "1..400"), both copies.  Float rounding of
  `(v·N)/N` is outside the model (measured by the harness at 1e-15 relative).
-/
import GHEVerif.Lemmas.Flow

namespace GHEVerif.C20
open GHEVerif GHEVerif.Flow

/-! ### the two copies -/

/-- Bisection1D's and RowWise's `retrieve_flow` are the same function (two generated
    definitions, equal by unfolding): a change to one copy only breaks this proof. -/
theorem copies_agree : Gen.retrieveFlow1D = Gen.retrieveFlowRW := rfl

/-- Hence the whole `initialize_ghe` flow path is the same for every search class. -/
theorem copies_agree_initialize (ft : FlowType) (v : Rat) (cs : List (Rat × Rat)) (rho : Rat) :
    initializeGhe .bisection1D ft v cs rho = initializeGhe .rowWise ft v cs rho := by
  unfold initializeGhe retrieveFlow
  rw [copies_agree]

/-- The call wiring read off the source: in `Bisection1D.__init__`, `Bisection1D.initialize_ghe`
    and `RowWiseModifiedBisectionSearch.initialize_ghe` the pair returned by `retrieve_flow` is
    unpacked as `(v_flow_system, m_flow_borehole)`, `m_flow_borehole` and `coordinates` go to the
    g-function calculation, `v_flow_system` goes to `GHE(...)` together with the g-function just
    computed and the same `fluid` whose `rho` was passed to `retrieve_flow`; and no other class
    of search_routines.py defines its own `retrieve_flow` / `initialize_ghe`. -/
theorem flow_wiring :
    Gen.flowWiring =
      [("Bisection1D.__init__",
          ["unpacked=v_flow_system,m_flow_borehole", "retrieve_flow_args=coordinates,fluid.rho",
           "gfunc_m_flow=m_flow_borehole", "gfunc_coordinates=coordinates", "gfunc_fluid=fluid",
           "ghe_v_flow_system=v_flow_system", "ghe_fluid=fluid", "ghe_g_function=g_function",
           "fluid_local=<parameter>"]),
       ("Bisection1D.initialize_ghe",
          ["unpacked=v_flow_system,m_flow_borehole", "retrieve_flow_args=coordinates,self.ghe.bhe.fluid.rho",
           "gfunc_m_flow=m_flow_borehole", "gfunc_coordinates=coordinates", "gfunc_fluid=fluid",
           "ghe_v_flow_system=v_flow_system", "ghe_fluid=fluid", "ghe_g_function=g_function",
           "fluid_local=self.ghe.bhe.fluid"]),
       ("RowWiseModifiedBisectionSearch.initialize_ghe",
          ["unpacked=v_flow_system,m_flow_borehole", "retrieve_flow_args=coordinates,self.fluid.rho",
           "gfunc_m_flow=m_flow_borehole", "gfunc_coordinates=coordinates", "gfunc_fluid=fluid",
           "ghe_v_flow_system=v_flow_system", "ghe_fluid=fluid", "ghe_g_function=g_function",
           "fluid_local=self.fluid"])] ∧
    Gen.flowDefiners =
      ["Bisection1D.retrieve_flow", "Bisection1D.initialize_ghe",
       "RowWiseModifiedBisectionSearch.retrieve_flow", "RowWiseModifiedBisectionSearch.initialize_ghe"] :=
  ⟨rfl, rfl⟩

/-! ### error branches -/

/-- A flow type that is neither member of `FlowConfigType` raises `ValueError`, in
    `retrieve_flow` and therefore in `initialize_ghe`, whatever the other arguments. -/
theorem bad_flow_type_raises (c : Copy) (v : Rat) (cs : List (Rat × Rat)) (rho : Rat) :
    retrieveFlow c .other v cs rho = .error .valueError ∧
    initializeGhe c .other v cs rho = .error .valueError :=
  ⟨retrieveFlow_other c v cs rho, initializeGhe_other c v cs rho⟩

/-- Exactly which calls of `retrieve_flow` raise, and what: a bad flow type (`ValueError`) and a
    system flow on an empty field (`ZeroDivisionError`); every other call returns. -/
theorem retrieve_flow_raises_iff (c : Copy) (ft : FlowType) (v : Rat) (cs : List (Rat × Rat)) (rho : Rat)
    (e : PyErr) :
    retrieveFlow c ft v cs rho = .error e ↔
      (ft = .other ∧ e = .valueError) ∨ (ft = .system ∧ cs = [] ∧ e = .zeroDiv) := by
  cases ft with
  | other => simp [retrieveFlow_other, eq_comm]
  | borehole => simp [retrieveFlow_borehole]
  | system =>
    by_cases hcs : cs = []
    · subst hcs; simp [retrieveFlow_system_nil, eq_comm]
    · simp [retrieveFlow_system c v cs rho hcs, hcs]

/-- An empty candidate field never yields a GHE: `ZeroDivisionError` under a system flow (from
    `retrieve_flow`), `IndexError` under a per-borehole flow (from `borehole_spacing`). -/
theorem empty_field_raises (c : Copy) (v rho : Rat) :
    initializeGhe c .system v [] rho = .error .zeroDiv ∧
    initializeGhe c .borehole v [] rho = .error .indexError :=
  ⟨initializeGhe_system_nil c v rho, initializeGhe_borehole_nil c v rho⟩

/-! ### the mass flow formula -/

/-- `retrieve_flow`: on a non-empty field, under either specification, the system flow is what
    the specification means and `ṁ = v_borehole / 1000 · ρ`. -/
theorem mass_flow_formula_retrieve (c : Copy) (ft : FlowType) (v : Rat) (cs : List (Rat × Rat)) (rho : Rat)
    (hft : ft ≠ .other) (hcs : cs ≠ []) :
    retrieveFlow c ft v cs rho =
      .ok (systemSpec ft v cs.length, perBoreholeSpec ft v cs.length / 1000 * rho) :=
  retrieveFlow_spec c ft v cs rho hft hcs

/-- The `BaseGHE.__init__` slice agrees with the hand model: per-borehole volumetric flow
    `V_sys / nbh`, and `GHE.m_flow_borehole` and the flow given to the borehole heat exchanger
    are both `V_sys / nbh / 1000 · ρ`; `ZeroDivisionError` on an empty field. -/
theorem mass_flow_formula_base_ghe (vs : Rat) (cs : List (Rat × Rat)) (rho : Rat) :
    Gen.baseGheFlow vs cs rho = (baseGhe vs cs.length rho).map (fun p => (p.1, p.2, p.2)) ∧
    (cs ≠ [] → Gen.baseGheFlow vs cs rho =
      .ok (vs / (cs.length : Rat), vs / (cs.length : Rat) / 1000 * rho, vs / (cs.length : Rat) / 1000 * rho)) := by
  constructor
  · by_cases hcs : cs = []
    · subst hcs; rw [baseGheFlow_nil]; rfl
    · have hlen : cs.length ≠ 0 := (List.length_pos_iff.mpr hcs).ne'
      rw [baseGheFlow_pos vs cs rho hcs]
      rw [baseGhe_pos hlen]
      rfl
  · intro hcs; exact baseGheFlow_pos vs cs rho hcs

/-- `mass_flow_formula`: after `initialize_ghe` on a field of `N ≥ 1` boreholes, under either
    specification, every per-borehole mass flow the code keeps — the one given to the g-function
    calculation, `GHE.m_flow_borehole`, `GHE.bhe.m_flow_borehole` (used by `R_b*`, `simulate` and
    the summary) — is (per-borehole L/s) / 1000 · ρ, the per-borehole volumetric flow is the one
    specified, and `V_flow_system = N · V_flow_borehole`. -/
theorem mass_flow_formula (c : Copy) (ft : FlowType) (v : Rat) (cs : List (Rat × Rat)) (rho : Rat)
    (hft : ft ≠ .other) (hcs : cs ≠ []) :
    ∃ g : GheFlow, initializeGhe c ft v cs rho = .ok g ∧
      g.vFlowBorehole = perBoreholeSpec ft v cs.length ∧
      g.mFlowBhe = g.vFlowBorehole / 1000 * rho ∧
      g.mFlowGhe = g.vFlowBorehole / 1000 * rho ∧
      g.mFlowG = g.vFlowBorehole / 1000 * rho ∧
      g.vFlowSystem = (cs.length : Rat) * g.vFlowBorehole ∧
      g.vFlowSystem = systemSpec ft v cs.length ∧
      g.nbh = cs.length :=
  ⟨_, initializeGhe_closed c ft v cs rho hft hcs, rfl, rfl, rfl, rfl,
    systemSpec_eq_mul ft v hcs hft, rfl, rfl⟩

/-- "The two agree with each other": whatever the specification, whenever `initialize_ghe`
    returns, the mass flow used for the g-function and the one recomputed by `BaseGHE.__init__`
    for the borehole resistance and the simulation are the same number. -/
theorem gfunction_and_bhe_flows_agree (c : Copy) (ft : FlowType) (v : Rat) (cs : List (Rat × Rat)) (rho : Rat)
    (g : GheFlow) (h : initializeGhe c ft v cs rho = .ok g) :
    g.mFlowG = g.mFlowBhe ∧ g.mFlowGhe = g.mFlowBhe := by
  rcases eq_or_ne ft .other with rfl | hft
  · rw [initializeGhe_other] at h; cases h
  rcases eq_or_ne cs [] with rfl | hcs
  · cases ft <;> simp [initializeGhe_system_nil, initializeGhe_borehole_nil, initializeGhe_other] at h
  rw [initializeGhe_closed c ft v cs rho hft hcs] at h
  cases h
  exact ⟨rfl, rfl⟩

/-! ### equivalence of the two specifications -/

/-- `borehole_system_equiv`, `retrieve_flow` level: a per-borehole flow `v` and a system flow
    `N·v` on the same field of `N ≥ 1` boreholes give the same pair, across copies too. -/
theorem borehole_system_equiv_retrieve (c c' : Copy) (v : Rat) (cs : List (Rat × Rat)) (rho : Rat) (hcs : cs ≠ []) :
    retrieveFlow c .borehole v cs rho = retrieveFlow c' .system ((cs.length : Rat) * v) cs rho := by
  rw [retrieveFlow_borehole, retrieveFlow_system c' _ cs rho hcs,
    mul_div_cancel_left₀ v (length_cast_ne_zero hcs), mul_comm]

/-- General form: the flow state depends on the specification only through the per-borehole
    volumetric flow it means on that field — any two specifications (of either type, through either
    copy) that mean the same per-borehole flow leave the identical state. -/
theorem same_per_borehole_flow_same_state (c c' : Copy) (ft ft' : FlowType) (v v' : Rat)
    (cs : List (Rat × Rat)) (rho : Rat) (hft : ft ≠ .other) (hft' : ft' ≠ .other) (hcs : cs ≠ [])
    (h : perBoreholeSpec ft v cs.length = perBoreholeSpec ft' v' cs.length) :
    initializeGhe c ft v cs rho = initializeGhe c' ft' v' cs rho := by
  rw [initializeGhe_closed c ft v cs rho hft hcs, initializeGhe_closed c' ft' v' cs rho hft' hcs,
      systemSpec_eq_mul ft v hcs hft, systemSpec_eq_mul ft' v' hcs hft', h]

/-- `borehole_system_equiv`: the complete flow state after `initialize_ghe` — system flow,
    g-function mass flow, per-borehole volumetric flow, `GHE.m_flow_borehole`,
    `bhe.m_flow_borehole`, `nbh` — is identical under `BOREHOLE v` and `SYSTEM N·v`, for every
    `N ≥ 1`, every `v`, `ρ`, and either search-class copy on either side. -/
theorem borehole_system_equiv (c c' : Copy) (v : Rat) (cs : List (Rat × Rat)) (rho : Rat) (hcs : cs ≠ []) :
    initializeGhe c .borehole v cs rho = initializeGhe c' .system ((cs.length : Rat) * v) cs rho := by
  refine same_per_borehole_flow_same_state c c' .borehole .system v _ cs rho (by decide) (by decide) hcs ?_
  exact (mul_div_cancel_left₀ v (length_cast_ne_zero hcs)).symm

/-- Converse direction: a system flow `V` on `N ≥ 1` boreholes is the per-borehole flow `V/N`. -/
theorem system_borehole_equiv (c c' : Copy) (V : Rat) (cs : List (Rat × Rat)) (rho : Rat) (hcs : cs ≠ []) :
    initializeGhe c .system V cs rho = initializeGhe c' .borehole (V / (cs.length : Rat)) cs rho :=
  same_per_borehole_flow_same_state c c' .system .borehole V _ cs rho (by decide) (by decide) hcs rfl

/-- The recomputation in `BaseGHE.__init__` does not disturb either specification: dividing the
    system flow that `retrieve_flow` returns by `N` gives back the per-borehole mass flow that
    `retrieve_flow` itself computed. -/
theorem base_ghe_recomputation_agrees (c : Copy) (ft : FlowType) (v : Rat) (cs : List (Rat × Rat)) (rho : Rat)
    (hft : ft ≠ .other) (hcs : cs ≠ []) :
    ∃ vs m, retrieveFlow c ft v cs rho = .ok (vs, m) ∧
      Gen.baseGheFlow vs cs rho = .ok (perBoreholeSpec ft v cs.length, m, m) := by
  refine ⟨_, _, retrieveFlow_spec c ft v cs rho hft hcs, ?_⟩
  rw [baseGheFlow_pos _ cs rho hcs, systemSpec_div ft v hcs hft]

/-! ### a system flow along a candidate list -/

/-- `system_flow_inverse_N`: with a system flow `V` the per-borehole mass flow times the number of
    boreholes is the constant `V/1000·ρ` (so `ṁ ∝ 1/N`) … -/
theorem system_flow_inverse_N (c : Copy) (V : Rat) (cs : List (Rat × Rat)) (rho : Rat) (hcs : cs ≠ []) :
    ∃ g : GheFlow, initializeGhe c .system V cs rho = .ok g ∧
      g.mFlowBhe * (cs.length : Rat) = V / 1000 * rho ∧ g.mFlowBhe = V / 1000 * rho / (cs.length : Rat) ∧
      g.vFlowSystem = V := by
  have hn := length_cast_ne_zero hcs
  have e : massFlow (V / (cs.length : Rat)) rho * (cs.length : Rat) = V / 1000 * rho := by
    rw [massFlow_mul_n, div_mul_cancel₀ V hn]; rfl
  exact ⟨_, initializeGhe_closed c .system V cs rho (by decide) hcs, e, eq_div_of_mul_eq hn e, rfl⟩

/-- … and it is strictly decreasing in the number of boreholes (positive flow and density). -/
theorem system_flow_strictly_decreasing (c : Copy) (V rho : Rat) (hV : 0 < V) (hrho : 0 < rho)
    (cs1 cs2 : List (Rat × Rat)) (h1 : cs1 ≠ []) (h12 : cs1.length < cs2.length) :
    ∃ g1 g2 : GheFlow, initializeGhe c .system V cs1 rho = .ok g1 ∧ initializeGhe c .system V cs2 rho = .ok g2 ∧
      g2.mFlowBhe < g1.mFlowBhe ∧ g2.mFlowG < g1.mFlowG ∧ g2.vFlowBorehole < g1.vFlowBorehole := by
  have h2 : cs2 ≠ [] := List.ne_nil_of_length_pos ((List.length_pos_iff.mpr h1).trans h12)
  have hd : V / (cs2.length : Rat) < V / (cs1.length : Rat) :=
    div_lt_div_of_pos_left hV (length_cast_pos h1) (by exact_mod_cast h12)
  have hm := massFlow_strictMono rho hrho _ _ hd
  exact ⟨_, _, initializeGhe_closed c .system V cs1 rho (by decide) h1,
    initializeGhe_closed c .system V cs2 rho (by decide) h2, hm, hm, hd⟩

/-- Along a whole candidate list (any length) whose field sizes strictly increase, as the lists
    built by `domains.py` do: every candidate initialises, and each later candidate has a strictly
    smaller per-borehole mass flow than each earlier one. -/
theorem system_flow_along_candidate_list (c : Copy) (V rho : Rat) (hV : 0 < V) (hrho : 0 < rho)
    (domain : List (List (Rat × Rat))) (hne : ∀ f ∈ domain, f ≠ [])
    (hinc : (domain.map List.length).Pairwise (· < ·)) :
    domain.Pairwise (fun f1 f2 => ∃ g1 g2 : GheFlow,
      initializeGhe c .system V f1 rho = .ok g1 ∧ initializeGhe c .system V f2 rho = .ok g2 ∧
      g2.mFlowBhe < g1.mFlowBhe ∧ g1.mFlowBhe * (f1.length : Rat) = g2.mFlowBhe * (f2.length : Rat)) := by
  rw [List.pairwise_map] at hinc
  refine List.Pairwise.imp_of_mem ?_ hinc
  intro f1 f2 m1 m2 hlt
  obtain ⟨g1, g2, e1, e2, hm, _, _⟩ := system_flow_strictly_decreasing c V rho hV hrho f1 f2 (hne f1 m1) hlt
  obtain ⟨_, e1', p1, _⟩ := system_flow_inverse_N c V f1 rho (hne f1 m1)
  obtain ⟨_, e2', p2, _⟩ := system_flow_inverse_N c V f2 rho (hne f2 m2)
  cases e1.symm.trans e1'
  cases e2.symm.trans e2'
  exact ⟨g1, g2, e1, e2, hm, p1.trans p2.symm⟩

/-- Weak version for lists in which consecutive candidates may have the same size
    (non-negative flow and density): per-borehole flow never increases along the list. -/
theorem system_flow_nonincreasing (c : Copy) (V rho : Rat) (hV : 0 ≤ V) (hrho : 0 ≤ rho)
    (cs1 cs2 : List (Rat × Rat)) (h1 : cs1 ≠ []) (h12 : cs1.length ≤ cs2.length) :
    ∃ g1 g2 : GheFlow, initializeGhe c .system V cs1 rho = .ok g1 ∧ initializeGhe c .system V cs2 rho = .ok g2 ∧
      g2.mFlowBhe ≤ g1.mFlowBhe := by
  have h2 : cs2 ≠ [] := List.ne_nil_of_length_pos ((List.length_pos_iff.mpr h1).trans_le h12)
  have hd : V / (cs2.length : Rat) ≤ V / (cs1.length : Rat) :=
    div_le_div_of_nonneg_left hV (length_cast_pos h1) (by exact_mod_cast h12)
  exact ⟨_, _, initializeGhe_closed c .system V cs1 rho (by decide) h1,
    initializeGhe_closed c .system V cs2 rho (by decide) h2, massFlow_mono rho hrho _ _ hd⟩

/-- With a per-borehole flow, by contrast, the per-borehole mass flow is the same for every
    candidate and the system flow grows as `N`. -/
theorem borehole_flow_constant_along_list (c : Copy) (v rho : Rat) (cs1 cs2 : List (Rat × Rat))
    (h1 : cs1 ≠ []) (h2 : cs2 ≠ []) :
    ∃ g1 g2 : GheFlow, initializeGhe c .borehole v cs1 rho = .ok g1 ∧ initializeGhe c .borehole v cs2 rho = .ok g2 ∧
      g1.mFlowBhe = g2.mFlowBhe ∧ g1.mFlowG = g2.mFlowG ∧
      g1.vFlowSystem = v * (cs1.length : Rat) ∧ g2.vFlowSystem = v * (cs2.length : Rat) :=
  ⟨_, _, initializeGhe_closed c .borehole v cs1 rho (by decide) h1,
    initializeGhe_closed c .borehole v cs2 rho (by decide) h2, rfl, rfl, rfl, rfl⟩

/-! ### call histories on one manager (`GHEManager.set_design`, design.py) -/

/-- `set_design` read off manager.py: refuse an unknown flow-type string, look at the geometric
    constraints, then ALWAYS build a new `Design<Method>(flow_rate, …, self._geometric_constraints, …,
    flow_type=flow_type)` and return 0 — no path keeps or patches an existing design — and nothing else in
    manager.py assigns `_design` or one of its attributes.  `Flow.setDesign` is the model of this skeleton. -/
theorem set_design_skeleton :
    Gen.setDesignSkeleton =
      [
      "flow_type_str = flow_type_str.upper()",
      "if flow_type_str == FlowConfigType.SYSTEM.name",
      ".flow_type = FlowConfigType.SYSTEM",
      "else",
      ".if flow_type_str == FlowConfigType.BOREHOLE.name",
      "..flow_type = FlowConfigType.BOREHOLE",
      ".else",
      "..message = <text>",
      "..if throw",
      "...raise ValueError",
      "..return 1",
      "if self._geometric_constraints.type is None",
      ".message = <text>",
      ".if throw",
      "..raise ValueError",
      ".return 1",
      "if self._geometric_constraints.type == DesignGeomType.NEARSQUARE",
      ".self._design = DesignNearSquare(v_flow=flow_rate, geometric_constraints=self._geometric_constraints, flow_type=flow_type)",
      "else",
      ".if self._geometric_constraints.type == DesignGeomType.RECTANGLE",
      "..self._design = DesignRectangle(v_flow=flow_rate, geometric_constraints=self._geometric_constraints, flow_type=flow_type)",
      ".else",
      "..if self._geometric_constraints.type == DesignGeomType.BIRECTANGLE",
      "...self._design = DesignBiRectangle(v_flow=flow_rate, geometric_constraints=self._geometric_constraints, flow_type=flow_type)",
      "..else",
      "...if self._geometric_constraints.type == DesignGeomType.BIZONEDRECTANGLE",
      "....self._design = DesignBiZoned(v_flow=flow_rate, geometric_constraints=self._geometric_constraints, flow_type=flow_type)",
      "...else",
      "....if self._geometric_constraints.type == DesignGeomType.BIRECTANGLECONSTRAINED",
      ".....self._design = DesignBiRectangleConstrained(v_flow=flow_rate, geometric_constraints=self._geometric_constraints, flow_type=flow_type)",
      "....else",
      ".....if self._geometric_constraints.type == DesignGeomType.ROWWISE",
      "......self._design = DesignRowWise(v_flow=flow_rate, geometric_constraints=self._geometric_constraints, flow_type=flow_type)",
      ".....else",
      "......message = <text>",
      "......if throw",
      ".......raise ValueError",
      "......return 1",
      "return 0"
      ] ∧
    Gen.designWriters = ["GHEManager.__init__: self._design", "GHEManager.set_design: self._design"] :=
  ⟨rfl, rfl⟩

/-- design.py carries the pair unchanged: `DesignBase.__init__` stores `V_flow = v_flow`,
    `flow_type = flow_type`; every `Design*.__init__` hands both to it and does not overwrite them; every
    `find_design` constructs its search class from `self.V_flow` and `flow_type=self.flow_type`. -/
theorem design_flow_wiring :
    Gen.designFlowWiring =
      [
      ("DesignBase.__init__", ["param[1]=v_flow", "param[12]=flow_type", "self.V_flow=v_flow", "self.flow_type=flow_type", "self.geometric_constraints=geometric_constraints"]),
      ("DesignNearSquare", ["bases=DesignBase", "super.v_flow=v_flow", "super.flow_type=flow_type", "search=Bisection1D", "search.v_flow=self.V_flow", "search.flow_type=self.flow_type"]),
      ("DesignRectangle", ["bases=DesignBase", "super.v_flow=v_flow", "super.flow_type=flow_type", "search=Bisection1D", "search.v_flow=self.V_flow", "search.flow_type=self.flow_type"]),
      ("DesignBiRectangle", ["bases=DesignBase", "super.v_flow=v_flow", "super.flow_type=flow_type", "search=Bisection2D", "search.v_flow=self.V_flow", "search.flow_type=self.flow_type"]),
      ("DesignBiZoned", ["bases=DesignBase", "super.v_flow=v_flow", "super.flow_type=flow_type", "search=BisectionZD", "search.v_flow=self.V_flow", "search.flow_type=self.flow_type"]),
      ("DesignBiRectangleConstrained", ["bases=DesignBase", "super.v_flow=v_flow", "super.flow_type=flow_type", "search=BisectionZD", "search.v_flow=self.V_flow", "search.flow_type=self.flow_type"]),
      ("DesignRowWise", ["bases=DesignBase", "super.v_flow=v_flow", "super.flow_type=flow_type", "search=RowWiseModifiedBisectionSearch", "search.v_flow=self.V_flow", "search.flow_type=self.flow_type"])
      ] :=
  rfl

/-- `set_design_last_wins`: after ANY history of `set_design` calls on a manager whose geometric
    constraints are set (valid and refused calls in any order, throwing or not), the design carries the
    flow rate and flow type of the last call that named a flow type; refused calls change nothing. -/
theorem set_design_last_wins (m : Manager) (k : Nat) (hk : k < nMethods) (hg : m.geom = some k)
    (calls : List Call) :
    (afterCalls m calls).design =
      match (calls.filter validCall).getLast? with
      | some c => some (c.1, c.2.1, k)
      | none => m.design :=
  afterCalls_design m k hk hg calls

/-- Hence the flow state of every candidate field is independent of the history: two managers (same
    design method) whose histories end — refused calls aside — with the same `(flow, type)` give every
    field the flow state of that specification alone, i.e. of a fresh manager that got only that call. -/
theorem set_design_history_independent (m m' : Manager) (k : Nat) (hk : k < nMethods)
    (hg : m.geom = some k) (hg' : m'.geom = some k) (calls calls' : List Call) (c : Call)
    (h : (calls.filter validCall).getLast? = some c) (h' : (calls'.filter validCall).getLast? = some c)
    (cp : Copy) (cs : List (Rat × Rat)) (rho : Rat) :
    (afterCalls m calls).design = (afterCalls m' calls').design ∧
    designFlow (afterCalls m calls) cp cs rho = designFlow (afterCalls m' calls') cp cs rho ∧
    designFlow (afterCalls m calls) cp cs rho = initializeGhe cp c.2.1 c.1 cs rho ∧
    designFlow (afterCalls m calls) cp cs rho = designFlow (afterCalls { geom := some k, design := none } [c]) cp cs rho := by
  have hv : validCall c = true := (List.mem_filter.mp (List.mem_of_getLast? h)).2
  have d := designFlow_afterCalls hk hg h cp cs rho
  refine ⟨?_, d.trans (designFlow_afterCalls hk hg' h' cp cs rho).symm, d,
    d.trans (designFlow_afterCalls hk rfl (lastValid_snoc [] c hv) cp cs rho).symm⟩
  rw [set_design_last_wins m k hk hg, set_design_last_wins m' k hk hg', h, h']

/-- On a re-used manager: after any history `pre`, `set_design(v, "borehole")`
    immediately followed by `set_design(N·v, "system")` on the SAME manager: the N-borehole field gets the identical flow state
    (hence the same R_b* and temperatures) under the second design as under the first. -/
theorem reused_manager_equiv (m : Manager) (k : Nat) (hk : k < nMethods) (hg : m.geom = some k)
    (pre : List Call) (v : Rat) (t t' : Bool) (cp cp' : Copy) (cs : List (Rat × Rat)) (rho : Rat) (hcs : cs ≠ []) :
    designFlow (afterCalls m (pre ++ [(v, .borehole, t)])) cp cs rho =
      designFlow (afterCalls m ((pre ++ [(v, .borehole, t)]) ++ [((cs.length : Rat) * v, .system, t')])) cp' cs rho := by
  rw [designFlow_afterCalls hk hg (lastValid_snoc _ _ rfl), designFlow_afterCalls hk hg (lastValid_snoc _ _ rfl)]
  exact borehole_system_equiv cp cp' v cs rho hcs

/-- What a single call does when it does not store: an unknown flow type is refused (`ValueError` or
    return code 1) and a call before any geometry is set raises (attribute access on `None`); the manager
    is unchanged in both cases. -/
theorem set_design_refusals (m : Manager) (v : Rat) (ft : FlowType) (throw : Bool) :
    setDesign m v .other throw = (m, if throw then .raised .valueError else .ret 1) ∧
    (ft ≠ .other → m.geom = none → setDesign m v ft throw = (m, .raised .other)) :=
  ⟨setDesign_other m v throw, fun hft hg => setDesign_no_geom hft hg v throw⟩

/-! ### non-vacuity: concrete runs of the generated code -/

/-- 0.1 L/s per borehole on 3 boreholes, ρ = 998: 0.3 L/s system, ṁ = 0.0998 kg/s. -/
example : initializeGhe .bisection1D .borehole (1 / 10) (field 3) 998 =
    .ok { vFlowSystem := 3 / 10, mFlowG := 499 / 5000, vFlowBorehole := 1 / 10,
          mFlowGhe := 499 / 5000, mFlowBhe := 499 / 5000, nbh := 3 } := by decide +kernel

/-- … and 0.3 L/s for the system on the same 3 boreholes, through the RowWise copy: same state. -/
example : initializeGhe .rowWise .system (3 / 10) (field 3) 998 =
    .ok { vFlowSystem := 3 / 10, mFlowG := 499 / 5000, vFlowBorehole := 1 / 10,
          mFlowGhe := 499 / 5000, mFlowBhe := 499 / 5000, nbh := 3 } := by decide +kernel

/-- `borehole_system_equiv` instantiated (hypothesis `cs ≠ []` is satisfiable). -/
example : initializeGhe .bisection1D .borehole (1 / 10) (field 3) 998 =
    initializeGhe .rowWise .system (((field 3).length : Rat) * (1 / 10)) (field 3) 998 :=
  borehole_system_equiv .bisection1D .rowWise (1 / 10) (field 3) 998 (by decide)

/-- `same_per_borehole_flow_same_state` instantiated: 2 L/s on 4 boreholes is 0.5 L/s each. -/
example : initializeGhe .rowWise .system 2 (field 4) 1000 = initializeGhe .bisection1D .borehole (1 / 2) (field 4) 1000 :=
  same_per_borehole_flow_same_state .rowWise .bisection1D .system .borehole 2 (1 / 2) (field 4) 1000
    (by decide) (by decide) (by decide) (by decide +kernel)

/-- 31.2 L/s (the one system flow in the test-suite) on 1, 4, 156 boreholes: 1/N. -/
example : (retrieveFlow .bisection1D .system (156 / 5) (field 1) 1000,
           retrieveFlow .bisection1D .system (156 / 5) (field 4) 1000,
           retrieveFlow .bisection1D .system (156 / 5) (field 156) 1000) =
    (.ok (156 / 5, 156 / 5), .ok (156 / 5, 39 / 5), .ok (156 / 5, 1 / 5)) := by decide +kernel

/-- The candidate-list theorem has a model: sizes 1 < 2 < 4. -/
example : ([field 1, field 2, field 4].map List.length).Pairwise (· < ·) ∧
    ∀ f ∈ [field 1, field 2, field 4], f ≠ [] := by decide

/-- A history on one manager: refused call, 0.3 borehole, 4.2 system, refused again → (4.2, system). -/
example : (afterCalls { geom := some 3, design := none }
    [(1, .other, false), (3 / 10, .borehole, true), (21 / 5, .system, true), (7, .other, false)]).design =
    some (21 / 5, .system, 3) := by decide +kernel

/-- … and the 6-borehole field then gets 4.2/6 L/s per borehole, not 4.2. -/
example : designFlow (afterCalls { geom := some 3, design := none } [(3 / 10, .borehole, true), (21 / 5, .system, true)])
    .bisection1D (field 6) 1000 =
    .ok { vFlowSystem := 21 / 5, mFlowG := 7 / 10, vFlowBorehole := 7 / 10, mFlowGhe := 7 / 10, mFlowBhe := 7 / 10, nbh := 6 } := by
  decide +kernel

/-- Error branches are reachable. -/
example : retrieveFlow .rowWise .other 1 (field 2) 1000 = .error .valueError ∧
    retrieveFlow .bisection1D .system 1 [] 1000 = .error .zeroDiv ∧
    initializeGhe .bisection1D .borehole 1 [] 1000 = .error .indexError ∧
    Gen.baseGheFlow 1 [] 1000 = .error .zeroDiv := by decide +kernel

/-- The equivalence needs `N ≥ 1`: on the empty field the two specifications fail differently. -/
example : initializeGhe .bisection1D .borehole 1 [] 1000 ≠ initializeGhe .bisection1D .system 0 [] 1000 := by
  decide +kernel

end GHEVerif.C20
