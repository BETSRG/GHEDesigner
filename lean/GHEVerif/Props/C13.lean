/-
  C13 — Results are deterministic and independent of call history.  Model: GHEVerif/Model/Api.lean.
  All numerics are parameters (`Kernels`): the theorems hold for every
  simulation kernel, every search routine (any interaction tree over calculate_excess /
  initialize_ghe / compute_g_functions+size), every root finder.

  `Gen.Api.*` is regenerated from the sources on every check (translate/gen_api.py); the
  `source_shape_*` theorems pin the facts the model transcribes (when the interpolation table is
  rebuilt, which slots `set_design` captures, which statements write a borehole height, that
  `simulate` never tests `self.times`, that nothing stores into a `keep_contour` default).
-/
import GHEVerif.Lemmas.Api
import GHEVerif.Gen.Api
import Batteries.Lean.Except

namespace GHEVerif.C13
open GHEVerif GHEVerif.Api

/-! ### 1. `find_design` is a function of the physical configuration -/

/-- **find_design_pure.**  After *any* history of API calls (any managers, any setters in any
    order with any repetitions, any earlier `set_design`/`find_design`, any nominal borehole
    heights), `set_design; find_design` on manager `m` yields exactly `design K cfg`, where `cfg` is
    read off the history *syntactically* (`lastSlots`: the last setter of each slot of `m`; the
    nominal height is not part of it) and `design` is a function of `cfg` alone.
    Hypotheses: the flow type is implemented, candidate generation does not raise, the load list
    is non-empty, and the search routine is `Safe` for the height the shared borehole holds (true
    of the four routines, measured on every real run). -/
theorem find_design_pure (K : Kernels) (hist : List Op) (m : Nat) (flow : Rat) (ft : FlowType) (cfg : Config)
    (hcfg : (lastSlots K m hist (0, {})).2.config? flow ft [true, false] = some cfg)
    (hft : ft ≠ .other) (hgeom : K.geomOk cfg.geom [true, false] = true) (hloads : 0 < cfg.st.loads.len)
    (hsafe : ∀ h0, boreHeight (runOps K hist {}) m = some h0 →
      Safe (CtorOk K cfg.st cfg.D cfg.rb h0) false (K.strategy cfg)) :
    (step K (.findDesign m) (step K (.setDesign m flow ft) (runOps K hist {})).2).1 = okUnit (design K cfg) ∧
    ∀ rs, design K cfg = .ok rs →
      resultOf (step K (.findDesign m) (step K (.setDesign m flow ft) (runOps K hist {})).2).2 m = some rs := by
  have hi := inv_history K m hist
  have hmlt : m < (runOps K hist {}).mgrs.length :=
    Nat.lt_of_not_le fun h => by rw [hi.fresh (hi.len ▸ h)] at hcfg; cases hcfg
  have hm := List.getElem?_eq_getElem hmlt
  have hk : (runOps K hist {}).keepContour = [true, false] := runOps_keepContour K hist {}
  exact setDesign_findDesign K m flow ft hm (by rw [hi.slots _ hm, hk]; exact hcfg) hft
    (by rw [hk]; exact hgeom) hloads hsafe

/-- Two histories — possibly on different managers, after different amounts of earlier work — that
    end in the same configuration, for which the design succeeds, give the same outcome and the same
    result. -/
theorem find_design_history_independent (K : Kernels) (h1 h2 : List Op) (m1 m2 : Nat) (flow : Rat) (ft : FlowType) (cfg : Config)
    (c1 : (lastSlots K m1 h1 (0, {})).2.config? flow ft [true, false] = some cfg)
    (c2 : (lastSlots K m2 h2 (0, {})).2.config? flow ft [true, false] = some cfg)
    (hft : ft ≠ .other) (hgeom : K.geomOk cfg.geom [true, false] = true) (hloads : 0 < cfg.st.loads.len)
    (s1 : ∀ h0, boreHeight (runOps K h1 {}) m1 = some h0 → Safe (CtorOk K cfg.st cfg.D cfg.rb h0) false (K.strategy cfg))
    (s2 : ∀ h0, boreHeight (runOps K h2 {}) m2 = some h0 → Safe (CtorOk K cfg.st cfg.D cfg.rb h0) false (K.strategy cfg))
    (rs : Result) (hok : design K cfg = .ok rs) :
    (step K (.findDesign m1) (step K (.setDesign m1 flow ft) (runOps K h1 {})).2).1 =
      (step K (.findDesign m2) (step K (.setDesign m2 flow ft) (runOps K h2 {})).2).1 ∧
    resultOf (step K (.findDesign m1) (step K (.setDesign m1 flow ft) (runOps K h1 {})).2).2 m1 =
      resultOf (step K (.findDesign m2) (step K (.setDesign m2 flow ft) (runOps K h2 {})).2).2 m2 := by
  have a := find_design_pure K h1 m1 flow ft cfg c1 hft hgeom hloads s1
  have b := find_design_pure K h2 m2 flow ft cfg c2 hft hgeom hloads s2
  exact ⟨by rw [a.1, b.1], by rw [a.2 rs hok, b.2 rs hok]⟩

/-- Repeating `set_design; find_design` on the same manager gives the same result again, for a
    search routine that is `Safe` from *every* height. -/
theorem find_design_repeatable (K : Kernels) (hist : List Op) (m : Nat) (flow : Rat) (ft : FlowType) (cfg : Config)
    (hcfg : (lastSlots K m hist (0, {})).2.config? flow ft [true, false] = some cfg)
    (hft : ft ≠ .other) (hgeom : K.geomOk cfg.geom [true, false] = true) (hloads : 0 < cfg.st.loads.len)
    (hsafe : ∀ h0, Safe (CtorOk K cfg.st cfg.D cfg.rb h0) false (K.strategy cfg))
    (rs : Result) (hok : design K cfg = .ok rs) :
    resultOf (runOps K (hist ++ [.setDesign m flow ft, .findDesign m]) {}) m = some rs ∧
    resultOf (runOps K ((hist ++ [.setDesign m flow ft, .findDesign m]) ++ [.setDesign m flow ft, .findDesign m]) {}) m = some rs := by
  have key : ∀ h : List Op, (lastSlots K m h (0, {})).2.config? flow ft [true, false] = some cfg →
      resultOf (runOps K (h ++ [.setDesign m flow ft, .findDesign m]) {}) m = some rs := fun h hc => by
    rw [runOps_append]
    exact (find_design_pure K h m flow ft cfg hc hft hgeom hloads (fun h0 _ => hsafe h0)).2 rs hok
  exact ⟨key hist hcfg, key _ (by rw [lastSlots_design]; exact hcfg)⟩

/-- The nominal height given to `set_borehole` is not part of the configuration: `slotsStep`, from
    which `find_design_pure` reads the configuration off the history, does not look at it. -/
theorem nominal_height_forgotten (K : Kernels) (m m' : Nat) (h h' d dia : Rat) (n : Nat) (s : Slots) :
    slotsStep K m (.setBorehole m' h d dia) n s = slotsStep K m (.setBorehole m' h' d dia) n s := rfl

/-- `find_design` in an arbitrary world depends only on what the design object captured (and the
    depth/radius of the borehole object it refers to): not on the borehole's current height, not
    on the manager's later slot contents, not on other managers or earlier searches. -/
theorem find_design_any_world (K : Kernels) (w : World) (m : Nat) (mg : Manager) (d : Snapshot) (st : Static) (r : Nat) (cell : BH)
    (hm : w.mgrs[m]? = some mg) (hready : mg.ready = true) (hd : mg.design = some d) (hst : d.static? = some st)
    (hr : d.bh = some r) (hc : w.heap[r]? = some cell)
    (hs : Safe (CtorOk K st cell.D cell.rb cell.H) false
            (K.strategy { st := st, geom := d.geom, D := cell.D, rb := cell.rb, keepContour := d.keepContour })) :
    (findDesign K m w).1 = okUnit (design K { st := st, geom := d.geom, D := cell.D, rb := cell.rb, keepContour := d.keepContour }) ∧
    ∀ rs, design K { st := st, geom := d.geom, D := cell.D, rb := cell.rb, keepContour := d.keepContour } = .ok rs →
      resultOf (findDesign K m w).2 m = some rs ∧ ((findDesign K m w).2.heap[r]?).map (·.H) = some rs.H :=
  findDesign_config K w m hm hready hd hst hr hc rfl hs

/-- What every history leaves in a manager is what its last setters said, slot by slot (the
    borehole slot read as depth and radius of the object referred to), and there are as many
    managers as `newManager` calls. -/
theorem slots_after_history (K : Kernels) (m : Nat) (hist : List Op) (mg : Manager)
    (hm : (runOps K hist {}).mgrs[m]? = some mg) :
    absSlots (runOps K hist {}) mg = (lastSlots K m hist (0, {})).2 ∧
    (runOps K hist {}).mgrs.length = (lastSlots K m hist (0, {})).1 :=
  ⟨(inv_history K m hist).slots mg hm, (inv_history K m hist).len⟩

/-- **refused_call_is_identity.**  A setter or `set_design` call that is refused (unknown pipe
    type / geometry type / fluid / flow type, geometry constraints missing, candidate generation
    raising, no such manager — whether it reports by `return 1` or by raising) leaves the whole
    world exactly as it was: every slot of every manager, `pipe_type`, `geom_type`, the design, the
    last search, the heap of boreholes. -/
theorem refused_call_is_identity (K : Kernels) (op : Op) (w : World) (e : PyErr)
    (hop : ∀ m, op ≠ .findDesign m) (h : (step K op w).1 = .error e) : (step K op w).2 = w := by
  rcases step_cases K op w hop with ⟨e', h'⟩ | ⟨_, _, h'⟩
  · rw [h']
  · rw [h'] at h; cases h

/-- `find_design` refused by its own `all([...])` test leaves the world as it was (a `find_design`
    that fails *during* the search keeps every slot but may leave another borehole height:
    `findDesign_world`). -/
theorem refused_find_design_is_identity (K : Kernels) (m : Nat) (w : World) (mg : Manager)
    (hm : w.mgrs[m]? = some mg) (hr : mg.ready = false) : step K (.findDesign m) w = (.error .valueError, w) := by
  simp [step, findDesign, hm, hr]

/-- Hence a refused call can be deleted from any history without changing anything that follows
    (in particular the design found later). -/
theorem refused_call_can_be_deleted (K : Kernels) (h1 h2 : List Op) (op : Op) (e : PyErr)
    (hop : ∀ m, op ≠ .findDesign m) (h : (step K op (runOps K h1 {})).1 = .error e) :
    runOps K (h1 ++ op :: h2) {} = runOps K (h1 ++ h2) {} := by
  rw [runOps_append, runOps_append]
  simp only [runOps]
  rw [refused_call_is_identity K op _ e hop h]

/-! ### 2. One GHE object: every call behaves as on a new object -/

/-- **simulate_pure.**  For every sequence of `simulate`/`size`/`compute_g_functions` calls and
    external height writes on one GHE — any heights, inside or outside the stored g-function
    heights — each call returns what the same call returns on the object *as new* (`specG`: no
    interpolation table, no time axis, no stored results; only the stored heights and the borehole
    height carry over).  No hypothesis: since fix 5ab5ff6 the interpolation table is rebuilt
    whenever it was built for another (kind, fill mode) (`source_shape_gfunction`); before it the
    statement needed every height to be covered by the stored ones (witness kept below as a
    regression). -/
theorem simulate_pure (K : Kernels) (ops : List GOp) (s : GSt) :
    (runG K ops s).1 = specG K ops s :=
  runG_refines K ops (RelS.refl s)

/-- In particular a simulation appended to any history returns what it returns on a new object
    with the same stored heights at the same borehole height. -/
theorem simulate_after_any_history (K : Kernels) (ops : List GOp) (m : Method) (s : GSt) :
    (gstep K (.simulate m) (runG K ops s).2).1 = (gstep K (.simulate m) (resetS (runG K ops s).2)).1 :=
  gstep_reset K (.simulate m) _

/-- The interpolation table left behind is always the one a new object would build for the last
    multi-curve lookup: `lookupCore` returns the pair (kind for the number of curves, fill mode of
    this height) whatever table it found. -/
theorem table_is_rebuilt (h0 h1 : Rat) (t : List Rat) (tb : Option (Kind × Fill)) (h : Rat) :
    (lookupCore (h0 :: h1 :: t) tb h).2 = some (kindOf (h0 :: h1 :: t).length, fillOf (h0 :: h1 :: t) h) :=
  lookupCore_table _ tb h

/-- **mutable_defaults_untouched.**  No API call writes the `keep_contour` default object: no branch of
    the model's `step` does (that the code has no such store is `source_shape_keep_contour`). -/
theorem mutable_defaults_untouched (K : Kernels) (hist : List Op) (w : World) :
    (runOps K hist w).keepContour = w.keepContour :=
  runOps_keepContour K hist w

/-! ### 3. Shape of the source (regenerated on every check) -/

theorem source_shape_keep_contour :
    Gen.Api.keepContourDesign = [true, false] ∧ Gen.Api.keepContourDomains = [true, false] ∧ Gen.Api.keepContourStores = 0 :=
  ⟨rfl, rfl, rfl⟩

/-- Exactly the modelled statements write a borehole height: `initialize_ghe` of the two search
    families (`initGHE`), the initial guess, `local_objective` and the final assignment of `GHE.size`. -/
theorem source_shape_height_writers :
    Gen.Api.heightWriters =
      ["ground_heat_exchangers.py:GHE.size:self.bhe.b.H", "ground_heat_exchangers.py:GHE.size:self.bhe.b.H",
       "ground_heat_exchangers.py:GHE.size.local_objective:self.bhe.b.H",
       "search_routines.py:Bisection1D.initialize_ghe:self.ghe.bhe.b.H",
       "search_routines.py:RowWiseModifiedBisectionSearch.initialize_ghe:self.borehole.H"] :=
  rfl

/-- The component objects captured by `set_design` (SimulationParameters, Pipe, Grout, Soil, fluid,
    geometric constraints, and the borehole apart from `H`) are never written: the only attribute
    writes on such objects are the five in `equivalent_single_u_tube` /
    `match_effective_borehole_resistance`, which act on the deep copies and the new `Pipe` created
    there.  This is why `Static`, `SimParams`, `Geom` are plain values in the model and
    `slots_after_history` holds; a write such as `self.sim_params.max_boreholes = …` inside a search
    (seeded change C13-w2m2) breaks this theorem. -/
theorem source_shape_components_readonly :
    Gen.Api.componentWriters =
      ["borehole_heat_exchangers.py:GHEDesignerBoreholeWithMultiplePipes.equivalent_single_u_tube:_borehole.r_b",
       "borehole_heat_exchangers.py:GHEDesignerBoreholeWithMultiplePipes.equivalent_single_u_tube:_borehole.r_b",
       "borehole_heat_exchangers.py:GHEDesignerBoreholeWithMultiplePipes.equivalent_single_u_tube.objective_pipe_conductivity:eq_single_u_tube.pipe.k",
       "borehole_heat_exchangers.py:GHEDesignerBoreholeWithMultiplePipes.match_effective_borehole_resistance:preliminary_new_single_u_tube.grout.k",
       "borehole_heat_exchangers.py:GHEDesignerBoreholeWithMultiplePipes.match_effective_borehole_resistance.objective_resistance:preliminary_new_single_u_tube.grout.k"] :=
  rfl

/-- The package keeps no state outside its objects: no module-level dict/list/set, no `global`
    statement, no memoising decorator.  The model's `World` (managers + heap of boreholes + the
    `keep_contour` default) is therefore all the state a history can leave behind in a process; a
    module-level memo (seeded change C07-w2m1) breaks this theorem. -/
theorem source_shape_no_module_state : Gen.Api.moduleState = [] :=
  rfl

/-- The setters that can refuse their input store only enum constants or freshly constructed
    objects, each in the accepting branch (`set_fluid`: inside the `try`, after the constructor
    returned): nothing is stored before the input has been accepted (`step`: the refusing branches
    return the world unchanged).  A lookup stored before the test (seeded change C13-w3m3) breaks this. -/
theorem source_shape_refusing_setters :
    Gen.Api.refusingSetterStores =
      [("set_design_geometry_type", ["self.geom_type=DesignGeomType.BIRECTANGLE", "self.geom_type=DesignGeomType.BIRECTANGLECONSTRAINED",
          "self.geom_type=DesignGeomType.BIZONEDRECTANGLE", "self.geom_type=DesignGeomType.NEARSQUARE",
          "self.geom_type=DesignGeomType.RECTANGLE", "self.geom_type=DesignGeomType.ROWWISE"]),
       ("set_pipe_type", ["self.pipe_type=BHPipeType.SINGLEUTUBE", "self.pipe_type=BHPipeType.DOUBLEUTUBEPARALLEL",
          "self.pipe_type=BHPipeType.DOUBLEUTUBESERIES", "self.pipe_type=BHPipeType.COAXIAL"]),
       ("set_fluid", ["self._fluid=GHEFluid(...) [try]"]),
       ("set_design", ["self._design=DesignNearSquare(...)", "self._design=DesignRectangle(...)", "self._design=DesignBiRectangle(...)",
          "self._design=DesignBiZoned(...)", "self._design=DesignBiRectangleConstrained(...)", "self._design=DesignRowWise(...)"])] :=
  rfl

def snapshotArgs : List String :=
  ["flow_rate", "self._borehole", "self.pipe_type", "self._fluid", "self._pipe", "self._grout", "self._soil",
   "self._simulation_parameters", "self._geometric_constraints", "self._ground_loads", "flow_type=flow_type",
   "method=TimestepType.HYBRID"]

/-- `set_design` hands every Design* class the manager's *current* slot objects (`Snapshot`),
    `find_design` tests the nine slots of `Manager.ready` and then runs search,
    `compute_g_functions`, `size(HYBRID)` in this order (`designFrom`). -/
theorem source_shape_manager :
    Gen.Api.designCtorArgs =
      [("DesignNearSquare", snapshotArgs), ("DesignRectangle", snapshotArgs), ("DesignBiRectangle", snapshotArgs),
       ("DesignBiZoned", snapshotArgs), ("DesignBiRectangleConstrained", snapshotArgs), ("DesignRowWise", snapshotArgs)] ∧
    Gen.Api.findDesignRequired =
      ["self._fluid", "self._grout", "self._soil", "self._pipe", "self._borehole", "self._simulation_parameters",
       "self._ground_loads", "self._geometric_constraints", "self._design"] ∧
    Gen.Api.findDesignCalls =
      ["self._design.find_design()", "self._search.ghe.compute_g_functions()", "self._search.ghe.size(method=TimestepType.HYBRID)"] :=
  ⟨rfl, rfl, rfl⟩

/-- Each setter writes only its own slot (`Op`, `slotsStep`). -/
theorem source_shape_setters :
    Gen.Api.setterWrites =
      [("set_design_geometry_type", ["self.geom_type"]), ("set_pipe_type", ["self.pipe_type"]), ("set_fluid", ["self._fluid"]),
       ("set_grout", ["self._grout"]), ("set_soil", ["self._soil"]),
       ("set_single_u_tube_pipe", ["self.pipe_type", "self._pipe"]), ("set_double_u_tube_pipe_parallel", ["self.pipe_type", "self._pipe"]),
       ("set_double_u_tube_pipe_series", ["self.pipe_type", "self._pipe"]), ("set_coaxial_pipe", ["self.pipe_type", "self._pipe"]),
       ("set_borehole", ["self._borehole"]), ("set_simulation_parameters", ["self._simulation_parameters"]),
       ("set_ground_loads_from_hourly_list", ["self._ground_loads"]),
       ("set_geometry_constraints_near_square", ["self._geometric_constraints"]),
       ("set_geometry_constraints_rectangle", ["self.geom_type", "self._geometric_constraints"]),
       ("set_geometry_constraints_bi_rectangle", ["self.geom_type", "self._geometric_constraints"]),
       ("set_geometry_constraints_bi_zoned_rectangle", ["self.geom_type", "self._geometric_constraints"]),
       ("set_geometry_constraints_bi_rectangle_constrained", ["self.geom_type", "self._geometric_constraints"]),
       ("set_geometry_constraints_rowwise", ["self.geom_type", "self._geometric_constraints"]),
       ("set_design", ["self._design"])] :=
  rfl

/-- `GHE.simulate` never tests `self.times` (the repaired finding F7: the guard
    `if len(self.times) == 0` is gone) and assigns it in both branches; `size` brackets the window;
    `compute_g_functions` uses `[min, avg, max]`. -/
theorem source_shape_ghe :
    Gen.Api.simulateTimesCompares = 0 ∧
    Gen.Api.simulateTimesStores = ["time_values", "np.arange(1, n_hours + 1, 1)"] ∧
    Gen.Api.simulateMethods = ["TimestepType.HYBRID", "TimestepType.HOURLY"] ∧
    Gen.Api.sizeSolveRootArgs = ["self.bhe.b.H", "local_objective", "lower=self.sim_params.min_height",
      "upper=self.sim_params.max_height", "abs_tol=1e-06", "rel_tol=1e-06", "max_iter=50"] ∧
    Gen.Api.cgfHeights = ["min_height", "avg_height", "max_height", "avg_height=(min_height + max_height) / 2.0"] :=
  ⟨rfl, rfl, rfl, rfl, rfl⟩

/-- `g_function_interpolation` (re)builds its table when it is empty *or was built for another
    (kind, fill mode)* (`lookupCore`); the hourly branch cuts the repeated loads at the horizon
    (`hourlyAxis`). -/
theorem source_shape_gfunction :
    Gen.Api.tableBuildTests =
      ["len(self.interpolation_table) == 0 or self.interpolation_table.get('built_for') != (kind, fill_value)"] ∧
    Gen.Api.simulateHourlyLoads =
      ["self.hybrid_load.load[2:] * 1000.0", "self.hourly_extraction_ground_loads", "(q_dot * n_years)[:n_hours]",
       "-1.0 * np.array(q_dot)"] :=
  ⟨rfl, rfl⟩

/-! ### 4. Witnesses: non-vacuity, the repaired finding, the boundary of `simulate_pure` -/

def st0 : Static :=
  { fluid := "water", pipe := "p", grout := "g", soil := "s", pipeType := "SINGLEUTUBE", loads := { tok := "atlanta", len := 8760 },
    sim := { months := 12, maxEft := 35, minEft := 5, maxH := 135, minH := 60, maxBh := none, cont := false },
    flow := 1 / 2, flowType := .borehole }

/-- A kernel whose temperatures depend on every argument the property cares about. -/
def K0 : Kernels :=
  { sim := fun a => (45 - a.h / 10 + (if a.method = .hourly then 1 / 100 else 0) + (a.hLoad - a.h) / 1000
                       + (match a.look.interp with | some (_, .extrapolate) => 1 | _ => 0), 10 + a.h / 100)
    buildOk := fun _ _ _ _ h => h ≠ 0
    gcalcOk := fun _ _ _ _ _ => true
    brent := fun lo hi => .ask ((lo + hi) / 2) (fun v => if v < 0 then .ret ((3 * lo + 5 * hi) / 8) else .ret ((lo + 3 * hi) / 4))
    strategy := fun _ => .ctor 0 (.eval 0 60 (fun a => .eval 0 135 (fun _ => .eval 5 135 (fun c =>
                  if a < 0 then .init 0 135 (.ret 0) else if 0 < c then .raise .valueError else .init 5 135 (.ret 5)))))
    fluidOk := fun _ => true
    geomOk := fun _ _ => true }

def g3 : GHE := { (mkGHE st0 7 135) with gf := { tok := "ubwt", heights := [60, 195 / 2, 135], table := none } }

/-- Finding F7 (repaired by d422d00), kept as a regression: an hourly simulation after a hybrid
    one on the same object returns what it returns on a new object. -/
example : (runG K0 [.simulate .hybrid, .simulate .hourly] { b := { H := 100, D := 2, rb := 7 / 100 }, g := g3 }).1 =
          specG K0 [.simulate .hybrid, .simulate .hourly] { b := { H := 100, D := 2, rb := 7 / 100 }, g := g3 } := by
  decide +kernel

/-- Non-vacuity of `simulate_pure`: a six-call history inside the window, results as on new objects
    and not errors. -/
example : (runG K0 [.simulate .hybrid, .setH 80, .simulate .hourly, .size .hybrid, .setH 120, .simulate .hybrid]
            { b := { H := 100, D := 2, rb := 7 / 100 }, g := g3 }).1 =
          [.temps (7007 / 200, 11), .unit, .temps (7413 / 200, 54 / 5),
           .temps (5343 / 160, 893 / 80), .unit, .temps (6603 / 200, 56 / 5)] := by
  decide +kernel

/-- Finding repaired by 5ab5ff6, kept as a regression: after a simulation inside the stored
    range, a simulation *above* it extrapolates exactly as a new object does (before the repair the
    used object raised `interp1d`'s bounds error); and the other direction (first call outside,
    later calls inside). -/
example :
    (runG K0 [.simulate .hybrid, .setH 150, .simulate .hybrid] { b := { H := 100, D := 2, rb := 7 / 100 }, g := g3 }).1 =
      [.temps (7007 / 200, 11), .unit, .temps (6197 / 200, 23 / 2)] ∧
    specG K0 [.simulate .hybrid, .setH 150, .simulate .hybrid] { b := { H := 100, D := 2, rb := 7 / 100 }, g := g3 } =
      [.temps (7007 / 200, 11), .unit, .temps (6197 / 200, 23 / 2)] ∧
    (runG K0 [.simulate .hybrid, .setH 100, .simulate .hybrid, .simulate .hourly] { b := { H := 150, D := 2, rb := 7 / 100 }, g := g3 }).1 =
      specG K0 [.simulate .hybrid, .setH 100, .simulate .hybrid, .simulate .hourly] { b := { H := 150, D := 2, rb := 7 / 100 }, g := g3 } := by
  decide +kernel

/-- A kernel that also sees which g-function table the object holds. -/
def K1 : Kernels := { K0 with sim := fun a => ((K0.sim a).1 + (if a.gtok = "calc" then 1 / 4 else 0), (K0.sim a).2) }

/-- Regression for a seeded change that cached the combined g-function by height only: simulate,
    replace the table (`compute_g_functions`, or assigning another table), simulate again at the
    *same* height — the second call sees the new table, exactly as a new object holding it does. -/
example :
    (runG K1 [.simulate .hybrid, .cgf, .simulate .hybrid, .setGF "ubwt" [60, 135], .simulate .hybrid]
        { b := { H := 100, D := 2, rb := 7 / 100 }, g := g3 }).1 =
      [.temps (7007 / 200, 11), .unit, .temps (7057 / 200, 11), .unit, .temps (7007 / 200, 11)] ∧
    specG K1 [.simulate .hybrid, .cgf, .simulate .hybrid, .setGF "ubwt" [60, 135], .simulate .hybrid]
        { b := { H := 100, D := 2, rb := 7 / 100 }, g := g3 } =
      [.temps (7007 / 200, 11), .unit, .temps (7057 / 200, 11), .unit, .temps (7007 / 200, 11)] := by
  decide +kernel

def hist0 : List Op :=
  [.newManager, .setFluid 0 "water", .setGrout 0 "g", .setSoil 0 "s", .setPipe 0 "SINGLEUTUBE" "p", .setBorehole 0 96 2 (14 / 100),
   .setSim 0 st0.sim, .setLoads 0 st0.loads, .setGeom 0 { kind := .nearSquare, tok := "ns" }]

/-- Another way to the same configuration: a second manager, setters permuted and repeated, an
    unrelated design found first on manager 0, nominal height 1 instead of 96. -/
def hist1 : List Op :=
  hist0 ++ [.setDesign 0 (1 / 2) .borehole, .findDesign 0, .newManager, .setGeom 1 { kind := .nearSquare, tok := "ns" },
    .setLoads 1 st0.loads, .setSoil 1 "x", .setBorehole 1 500 3 (2 / 10), .setSim 1 st0.sim, .setBorehole 1 1 2 (14 / 100), .setSoil 1 "s",
    .setPipe 1 "SINGLEUTUBE" "p", .setGrout 1 "g", .setFluid 1 "water"]

def cfg0 : Config := { st := st0, geom := { kind := .nearSquare, tok := "ns" }, D := 2, rb := 7 / 100, keepContour := [true, false] }

/-- Non-vacuity of `find_design_pure` / `find_design_history_independent`: both histories end in
    `cfg0`, the design succeeds, and both managers hold the same result. -/
example :
    (lastSlots K0 0 hist0 (0, {})).2.config? (1 / 2) .borehole [true, false] = some cfg0 ∧
    (lastSlots K0 1 hist1 (0, {})).2.config? (1 / 2) .borehole [true, false] = some cfg0 ∧
    (design K0 cfg0).toOption.map (fun r => (r.field, r.H)) = some (5, 465 / 4) ∧
    resultOf (runOps K0 (hist0 ++ [.setDesign 0 (1 / 2) .borehole, .findDesign 0]) {}) 0 = (design K0 cfg0).toOption ∧
    resultOf (runOps K0 (hist1 ++ [.setDesign 1 (1 / 2) .borehole, .findDesign 1]) {}) 1 = (design K0 cfg0).toOption := by
  decide +kernel

/-- A re-used manager: after a complete design only the loads and the geometry are set again
    (simulation parameters, borehole, pipe, fluid, grout, soil untouched); `set_design; find_design`
    gives the design of the final slots, as on a new manager (non-vacuity of `find_design_pure` for
    this history shape; a search that wrote into the shared SimulationParameters object would break it). -/
example :
    (lastSlots K0 0 (hist0 ++ [.setDesign 0 (1 / 2) .borehole, .findDesign 0, .setLoads 0 { tok := "big", len := 8760 },
        .setGeom 0 { kind := .nearSquare, tok := "large lot" }]) (0, {})).2.config? (1 / 2) .borehole [true, false] =
      some { cfg0 with st := { st0 with loads := { tok := "big", len := 8760 } }, geom := { kind := .nearSquare, tok := "large lot" } } ∧
    resultOf (runOps K0 (hist0 ++ [.setDesign 0 (1 / 2) .borehole, .findDesign 0, .setLoads 0 { tok := "big", len := 8760 },
        .setGeom 0 { kind := .nearSquare, tok := "large lot" }, .setDesign 0 (1 / 2) .borehole, .findDesign 0]) {}) 0 =
      (design K0 { cfg0 with st := { st0 with loads := { tok := "big", len := 8760 } }, geom := { kind := .nearSquare, tok := "large lot" } }).toOption := by
  decide +kernel

/-- Refused calls interleaved in a history (a misspelt pipe type after the pipe setter, an unknown
    geometry type, a flow type that is not implemented, `find_design` on a manager that is not
    ready) are all refused and the design found afterwards is the one found without them. -/
example :
    (step K0 (.setPipeType 0 none) (runOps K0 hist0 {})).1 = .error .valueError ∧
    (step K0 (.setDesign 0 (1 / 2) .other) (runOps K0 hist0 {})).1 = .error .valueError ∧
    (step K0 (.findDesign 0) (runOps K0 hist0 {})).1 = .error .valueError ∧
    resultOf (runOps K0 (hist0 ++ [.setPipeType 0 none, .setGeomType 0 none, .setDesign 0 (1 / 2) .other, .findDesign 0,
        .setDesign 0 (1 / 2) .borehole, .setPipeType 0 none, .findDesign 0]) {}) 0 =
      resultOf (runOps K0 (hist0 ++ [.setDesign 0 (1 / 2) .borehole, .findDesign 0]) {}) 0 ∧
    ((runOps K0 (hist0 ++ [.setPipeType 0 none, .setGeomType 0 none]) {}).mgrs[0]?).map (fun mg => (mg.pipeType, mg.geomType)) =
      some (some "SINGLEUTUBE", none) := by
  decide +kernel

/-- The search routine of `K0` is `Safe` from every non-zero height (and the hypothesis is needed:
    at nominal height 0 the constructor raises — real code: `ZeroDivisionError`, run). -/
example (h0 : Rat) (hne : h0 ≠ 0) : Safe (CtorOk K0 cfg0.st cfg0.D cfg0.rb h0) false (K0.strategy cfg0) :=
  Safe.ctorU _ _ (by simp [CtorOk, K0, hne]) (Safe.eval _ _ _ _ fun _ => safe_true _ _)

example : (step K0 (.findDesign 0) (step K0 (.setDesign 0 (1 / 2) .borehole)
            (runOps K0 (hist0 ++ [.setBorehole 0 0 2 (14 / 100)]) {})).2).1 = .error .other := by
  decide +kernel

/-- A component setter *after* `set_design` is ignored by `find_design` (the design keeps the
    objects it captured): outside the documented call order, excluded by the shape of
    `find_design_pure` (`set_design` immediately before `find_design`). -/
example :
    resultOf (runOps K0 (hist0 ++ [.setDesign 0 (1 / 2) .borehole, .setSoil 0 "other", .findDesign 0]) {}) 0 =
    resultOf (runOps K0 (hist0 ++ [.setDesign 0 (1 / 2) .borehole, .findDesign 0]) {}) 0 := by
  decide +kernel

end GHEVerif.C13
