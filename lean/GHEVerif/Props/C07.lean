/-
  C07 — Hybrid loads retain each month's peaks with positive, bounded durations.

  Model/Hybrid.lean: `ipfFlag`, `emitMonth` / `monthSegments`, `peakDuration`
  (`perform_current_month_simulation`), `twoDayWindow` (`process_two_day_loads`).
  The short-time g-function enters as an arbitrary `G : Nat → Rat` (its value at a lag of k hours);
  `duration_bounds` quantifies over every non-decreasing `G` with non-negative one-hour step response and is
  about `peakDuration` on a window dominated by the peak (`0 ≤ qᵢ ≤ peak`, `0 ≤ avg < peak`).  `durationOf`
  does not guarantee the domination (known findings
  window-exceeds-peak-within-tolerance, degenerate-duration: durations outside (0, 48]) and no theorem here
  is about it.  The records are arbitrary: that `monthlyStage` produces records meeting the hypotheses is not
  proved.

  Placement is stated with the record's noon `first_month_hour + 24·day + 12` (the tool's 1-based hour
  labels) and needs that `first_hour_*_peak` is not clamped (`dur ≤ 2·noon`): on 1 January a duration above
  26 h is placed at `[1e-6, 1e-6 + dur]` (witness `clamped_pulse_not_centred`, known finding).
-/
import GHEVerif.Lemmas.HybridMonth
import GHEVerif.Lemmas.HybridDur
import Mathlib.Tactic.NormNum

namespace GHEVerif.C07
open GHEVerif GHEVerif.Hybrid

/-- Peaks are retained exactly in the first twelve and the last twelve months of the horizon. -/
theorem retention_months (start end_ i : Int) :
    ipfFlag start end_ i = true ↔ (i < start + 12 ∨ i > end_ - 12) := by
  unfold ipfFlag
  rw [Bool.or_eq_true, decide_eq_true_eq, decide_eq_true_eq]
  simp [Gen.peakRetainStart, Gen.peakRetainEnd]

/-- A month outside the retention window emits exactly one entry: its average up to the month end. -/
theorem unretained_month_is_average_only (y : Int) (r : MonthRec) (i : Int) (hi : 1 ≤ i) :
    emitMonth y r false i = .ok [(rateOf y r false i, ((lmh y i : Int) : Rat))] ∧
    rateOf y r false i * (24 * (mdays y i : Rat)) = r.cl - r.hl := by
  have hrun : MonthRuns y r false i := by intro h; cases h
  refine ⟨?_, ?_⟩
  · rw [emitMonth_runs y r false i hi hrun]; simp [monthSegments]
  · simpa using (monthRate_runs y r false i hrun).2

/-- Pulses of a retained month, for arbitrary records with non-negative, unclamped durations
    (`dur ≤ 2·noon`).  When the peak is positive the entries contain a rejection entry `+peak_cl` over
    `coolWindow` = `[noon − d/2, noon + d/2]` (`[noon − d, noon]` on a shared day) resp. an extraction entry
    `−peak_hl` over `heatWindow` (`[noon, noon + d]` on a shared day: abutting); every entry carries the
    average rate or the peak of a direction whose peak is positive.  That a pulse occurs once is not stated.
    The last two conjuncts (the windows are `dcl`, `dhl` long) hold of every record. -/
theorem pulse_present_and_placed (y : Int) (r : MonthRec) (i : Int) (hi : 1 ≤ i)
    (hrun : MonthRuns y r true i)
    (hc : 0 < r.pcl → 0 ≤ r.dcl ∧ r.dcl ≤ 2 * noonOf (1 + lmh y (i - 1)) r.dayc)
    (hh : 0 < r.phl → 0 ≤ r.dhl ∧ r.dhl ≤ 2 * noonOf (1 + lmh y (i - 1)) r.dayh) :
    ∃ segs, emitMonth y r true i = .ok segs ∧
      (0 < r.pcl → (r.pcl, (coolWindow (1 + lmh y (i - 1)) r).1, (coolWindow (1 + lmh y (i - 1)) r).2)
          ∈ triples ((lmh y (i - 1) : Int) : Rat) segs) ∧
      (0 < r.phl → (-r.phl, (heatWindow (1 + lmh y (i - 1)) r).1, (heatWindow (1 + lmh y (i - 1)) r).2)
          ∈ triples ((lmh y (i - 1) : Int) : Rat) segs) ∧
      (∀ t ∈ triples ((lmh y (i - 1) : Int) : Rat) segs,
          t.1 = rateOf y r true i ∨ (0 < r.pcl ∧ t.1 = r.pcl) ∨ (0 < r.phl ∧ t.1 = -r.phl)) ∧
      ((coolWindow (1 + lmh y (i - 1)) r).2 - (coolWindow (1 + lmh y (i - 1)) r).1 = r.dcl) ∧
      ((heatWindow (1 + lmh y (i - 1)) r).2 - (heatWindow (1 + lmh y (i - 1)) r).1 = r.dhl) := by
  refine ⟨_, emitMonth_windows y r i hi hrun hc hh, ?_, ?_, ?_, ?_, ?_⟩
  · intro c
    by_cases h : 0 < r.phl <;> simp only [monthShape, c, h, if_true, if_false]
    split_ifs with d d'
    · simp [triples]
    · simp [triples]
    · simp [triples]
    · simp [triples]
  · intro h
    by_cases c : 0 < r.pcl <;> simp only [monthShape, c, h, if_true, if_false]
    split_ifs with d d'
    · simp [triples]
    · simp [triples]
    · -- shared day: the extraction entry starts where the rejection entry ends, at noon
      have e : r.dayc = r.dayh := by omega
      simp [triples, coolWindow, heatWindow, e]
    · simp [triples]
  · unfold monthShape
    by_cases c : 0 < r.pcl <;> by_cases h : 0 < r.phl <;> simp only [c, h, if_true, if_false]
    split_ifs with d d'
    · simp [triples]
    · simp [triples]
    · simp [triples]
    · simp [triples]
    · simp [triples]
    · simp [triples]
  · unfold coolWindow; split <;> simp
  · unfold heatWindow; split <;> simp

/-- Duration bounds (Cullin & Spitler): for a window dominated by the peak and every admissible short-time
    response, `peakDuration` returns a finite duration in `(0, 48]`. -/
theorem duration_bounds (G : Nat → Rat) (tpk rb : Rat) (td : List Rat) (p a : Rat)
    (hlen : td.length = 49) (htpk : 0 < tpk) (hG : ∀ k, 1 ≤ k → G k ≤ G (k + 1))
    (hS : 0 ≤ G 1 / tpk + rb)
    (hq : ∀ k, 1 ≤ k → k ≤ 48 → 0 ≤ td.getD k 0 ∧ td.getD k 0 ≤ p) (ha : 0 ≤ a) (hap : a < p) :
    ∃ d, peakDuration G tpk rb td p a = .ok (.val d) ∧ 0 < d ∧ d ≤ 48 := by
  obtain ⟨d, _, _, h1, h2, h3, _⟩ := peakDuration_bounds G tpk rb td p a hlen htpk hG hS hq ha hap
  exact ⟨d, h1, h2, h3⟩

/-- Under the hypotheses of `duration_bounds` the duration is the placeholder `1e-6` or the time `d ∈ (k, k+1]`
    at which the interpolant of the response to a constant load `peak − avg` equals the maximum `m > 0` of the
    response to the peak-scaled profile `(qᵢ − avg)/peak · qᵢ`.  (That the placeholder is returned exactly when
    that maximum is not positive is said by `Hybrid.peakDuration_bounds`, not here.) -/
theorem duration_definition (G : Nat → Rat) (tpk rb : Rat) (td : List Rat) (p a : Rat)
    (hlen : td.length = 49) (htpk : 0 < tpk) (hG : ∀ k, 1 ≤ k → G k ≤ G (k + 1))
    (hS : 0 ≤ G 1 / tpk + rb)
    (hq : ∀ k, 1 ≤ k → k ≤ 48 → 0 ≤ td.getD k 0 ∧ td.getD k 0 ≤ p) (ha : 0 ≤ a) (hap : a < p) :
    ∃ d, peakDuration G tpk rb td p a = .ok (.val d) ∧
      (d = Gen.hybridDelta ∨
        ∃ (m : Rat) (k : Nat) (qn : List Rat), qNominal td p a = .ok qn ∧ pyMax (response G tpk rb qn) = .ok m ∧
          0 < m ∧ k < 48 ∧ (k : Rat) < d ∧ d ≤ (k : Rat) + 1 ∧
          (response G tpk rb (qPeak p a)).getD k 0
            + (d - (k : Rat)) * ((response G tpk rb (qPeak p a)).getD (k + 1) 0 - (response G tpk rb (qPeak p a)).getD k 0) = m) := by
  obtain ⟨d, m, qn, h1, _, _, hqn, hm, hd⟩ := peakDuration_bounds G tpk rb td p a hlen htpk hG hS hq ha hap
  refine ⟨d, h1, ?_⟩
  rcases hd with ⟨_, hδ⟩ | ⟨hpos, k, hk⟩
  · exact Or.inl hδ
  · exact Or.inr ⟨m, k, qn, hqn, hm, hpos, hk⟩

/-- The peak-step response is `(peak − avg) · (G(n)/(2πk) + R_b)` at `n = 1..48`; the response to any load
    history that starts at 0 is the superposition of its changes with that step response. -/
theorem responses_unfolded (G : Nat → Rat) (tpk rb p a : Rat) (q : List Rat) (hq0 : q.getD 0 0 = 0) (n : Nat) :
    (n < 48 → (response G tpk rb (qPeak p a)).getD (n + 1) 0 = (p - a) * (G (n + 1) / tpk + rb)) ∧
    (n + 1 < q.length → (response G tpk rb q).getD (n + 1) 0 =
      ((List.range (n + 1)).map (fun j => (q.getD (j + 1) 0 - q.getD j 0) * (G (n + 1 - j) / tpk + rb))).sum) := by
  constructor
  · intro hn
    rw [response_getD _ _ _ _ n (by simp [qPeak, Gen.twoDayFactor, Gen.HRS_IN_DAY]; omega), peak_response G tpk rb p a n hn]; rfl
  · intro hn
    rw [response_getD _ _ _ _ n hn, responseFrom_eq G tpk rb q hq0 (n + 1) hn]; rfl

/-- The two-day window is the day before the peak day and the peak day, wrapping to 31 December for a
    peak on 1 January. -/
theorem window_is_two_days_ending_on_peak_day (l : List Rat) (hl : 24 ≤ l.length) (hb day : Nat) :
    (24 ≤ hb + 24 * day → twoDayWindow (withLastDay l) (24 + (hb : Int)) (day : Int) = pySlice l (hb + 24 * day - 24) 48) ∧
    (twoDayWindow (withLastDay l) 24 0 = l.drop (l.length - 24) ++ l.take 24) := by
  have hA : (l.drop (l.length - 24)).length = 24 := by simp; omega
  simp only [twoDayWindow, pySlice, withLastDay, show Gen.HRS_IN_DAY = 24 from rfl,
    show Gen.twoDayFactor = 2 from rfl, show ((2 : Int) * 24).toNat = 48 from rfl, show (24 : Int).toNat = 24 from rfl]
  constructor
  · intro h
    have hs : (24 + (hb : Int) + ((day : Int) - 1) * 24).toNat = 24 + (hb + 24 * day - 24) := by omega
    rw [hs, List.drop_append, hA, List.drop_eq_nil_of_le (by rw [hA]; omega), List.nil_append, Nat.add_sub_cancel_left]
  · rw [show (24 + ((0 : Int) - 1) * 24).toNat = 0 from rfl, List.drop_zero, List.take_append, hA]
    simp
    omega

/-! ### witnesses and non-vacuity -/

/-- Atlanta-like July: rejection peak on day 17 (6 h), extraction peak on day 3 (2 h). -/
def wBoth : MonthRec := { cl := 9000, hl := 1200, pcl := 180, phl := 60, dayc := 17, dayh := 3, dcl := 6, dhl := 2 }

example : ∃ segs, emitMonth 2019 wBoth true 7 = .ok segs ∧
    (180, 4762, 4768) ∈ triples 4344 segs ∧ (-60, 4428, 4430) ∈ triples 4344 segs := by
  have h6 : lmh 2019 (7 - 1) = 4344 := by decide
  obtain ⟨segs, e, a, b, _⟩ := pulse_present_and_placed 2019 wBoth 7 (by decide) (by intro _; decide +kernel)
    (by decide +kernel) (by decide +kernel)
  refine ⟨segs, e, ?_, ?_⟩
  · have := a (by decide +kernel)
    rw [h6] at this
    norm_num [coolWindow, wBoth, noonOf] at this
    exact this
  · have := b (by decide +kernel)
    rw [h6] at this
    norm_num [heatWindow, wBoth, noonOf] at this
    exact this

/-- Witness for the clamp: January, extraction peak on day 0 with a 30 h duration.  The record's centred
    window would be [−2, 28]; the code emits the pulse over [1e-6, 30.000001]: not centred on noon (13). -/
def wClamp : MonthRec := { cl := 100, hl := 900, pcl := 20, phl := 30, dayc := 9, dayh := 0, dcl := 2, dhl := 30 }

theorem clamped_pulse_not_centred :
    ∃ segs, emitMonth 2019 wClamp true 1 = .ok segs ∧
      (-30, Gen.hybridDelta, Gen.hybridDelta + 30) ∈ triples 0 segs ∧
      (Gen.hybridDelta + (Gen.hybridDelta + 30)) / 2 ≠ noonOf (1 + lmh 2019 (1 - 1)) wClamp.dayh :=
  ⟨_, emitMonth_runs 2019 wClamp true 1 (by decide) (by intro _; decide +kernel), by decide +kernel, by decide +kernel⟩

/-- Non-vacuity of `duration_bounds`: the linear response `G k = k`, `2πk = 1`, `R_b = 0`, a window that
    ramps up to its peak 10 with average 2 meets every hypothesis. -/
example : ∃ d, peakDuration (fun k => (k : Rat)) 1 0 (0 :: (List.range 48).map (fun k => ((k % 10 : Nat) : Rat) + 1)) 10 2
    = .ok (.val d) ∧ 0 < d ∧ d ≤ 48 := by
  apply duration_bounds
  · simp
  · norm_num
  · exact fun k _ => Nat.cast_le.2 k.le_succ
  · norm_num
  · intro k k1 k48
    obtain ⟨j, rfl⟩ : ∃ j, k = j + 1 := ⟨k - 1, by omega⟩
    rw [List.getD_cons_succ, List.getD_eq_getElem _ _ (by simp; omega)]
    simp only [List.getElem_map, List.getElem_range]
    have h2 : ((j % 10 : Nat) : Rat) ≤ 9 := by exact_mod_cast (by omega : j % 10 ≤ 9)
    constructor <;> linarith
  · norm_num
  · norm_num

end GHEVerif.C07
