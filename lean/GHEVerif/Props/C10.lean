/-
  C10 — Short-time radial g-function is conservative and physically consistent.

  The model (Model/Radial.lean) is written once, polymorphically in the scalar type; the
  theorems are about those definitions over a field of characteristic 0 (cell table), an ordered
  field with any `log` satisfying `log(a/b) = log a - log b` on positives (layer resistances; at ℝ
  `Real.log`), and an ordered field (time stepping).  `Float` rounding is not reasoned about: the
  harness runs the `Float` instantiation against numpy/LAPACK.

  The time-stepping theorems (4)-(5) are about ANY exact solution `T'` of the assembled tridiagonal
  system `SolvesTri (assemble …).dl (assemble …).d (assemble …).du (rhs …) T'` — the lists the
  model (and, as measured by the harness to 1e-12, the code) hands to LAPACK `dgtsv`.  A cell
  list is written `(List.range (m+2)).map c` with `c : ℕ → Cell K` arbitrary; every list of
  length `m+2` has this form (`Radial.list_eq_range_map`).

  (6)-(9) remove those hypotheses for the model: its own elimination `triSolve` is exact (strict diagonal
  dominance from positive coefficients, which follow from valid inputs), so (4)-(5) hold for `modelTraj`, the
  iterates of the model's loop body.  (10) ties ONE pass of `stepOnce` to that body; the induction over
  `loopGo`, hence anything about what `calcSts` returns, is not stated, and (5c) is not composed with (5b).

  Cell counts, far-field radius, initial temperature, … are `GHEVerif.Gen.Radial.*`,
  regenerated from radial_numerical_borehole.py on every check.
-/
import GHEVerif.Lemmas.Radial
import Mathlib.Analysis.SpecialFunctions.Log.Basic

namespace GHEVerif.C10
open GHEVerif GHEVerif.Radial List

/-- The counts written in the source are all positive (a region with 0 cells would tear the
    tiling) and add up to 535 cells with the borehole wall at index 35; at least 2 resampling points. -/
theorem gen_counts_positive : genCounts.Pos ∧ genCounts.total = 535 ∧ genCounts.bhWall = 35 ∧
    2 ≤ Gen.Radial.numIntervals :=
  ⟨by unfold Counts.Pos; decide, by decide, by decide, by decide⟩

/-- (1) The cells tile `[r_fluid, r_far_field]` without gaps, for any field of characteristic 0,
    any value used for `sqrt 2`, any positive cell counts: as many cells as `num_cells`,
    `r_out i = r_in (i+1)`, the first cell starts at `r_fluid`, the last ends at the far-field
    radius, the regions start at `r_conv, r_in_tube, r_out_tube = sqrt2·r_po, r_borehole`, and every
    centre is the midpoint. -/
theorem cells_tile {K : Type} [Field K] [CharZero K] (E : Env K) (C : Counts) (hC : C.Pos)
    (x : Inputs K) (rf rpg : K) :
    (fillRadialCellsCore E C x rf rpg).length = C.total ∧
    (∀ i (h : i + 1 < (fillRadialCellsCore E C x rf rpg).length),
        (fillRadialCellsCore E C x rf rpg)[i].rOut = (fillRadialCellsCore E C x rf rpg)[i + 1].rIn) ∧
    (∀ c ∈ (fillRadialCellsCore E C x rf rpg).head?, c.rIn = (geometry E C x).rFluid) ∧
    (∀ c ∈ (fillRadialCellsCore E C x rf rpg).getLast?, c.rOut = ((Gen.Radial.rFarField : ℕ) : K)) ∧
    ((fillRadialCellsCore E C x rf rpg)[C.nFluid]?.map (·.rIn) = some (geometry E C x).rConv) ∧
    ((fillRadialCellsCore E C x rf rpg)[C.nFluid + C.nConv]?.map (·.rIn) = some (geometry E C x).rInTube) ∧
    ((fillRadialCellsCore E C x rf rpg)[C.nFluid + C.nConv + C.nPipe]?.map (·.rIn) = some (E.sqrt2 * x.rPo)) ∧
    ((fillRadialCellsCore E C x rf rpg)[C.bhWall]?.map (·.rIn) = some x.rB) ∧
    (∀ c ∈ fillRadialCellsCore E C x rf rpg, c.rC = (c.rIn + c.rOut) / 2) := by
  obtain ⟨s1, s2, s3, s4⟩ := core_region_starts E C hC x rf rpg
  have t := core_tiles E C hC x rf rpg
  exact ⟨core_length E C x rf rpg, fun i h => t.chain.getElem i h, t.head, t.last, s1, s2, s3, s4,
    core_center E C x rf rpg⟩

/-- (1') The same for the function with Python's exception checks and the source's counts:
    whenever `fill_radial_cells` returns a table, it is the tiled table of 535 cells. -/
theorem cells_tile_checked {K : Type} [Field K] [CharZero K] (E : Env K) (x : Inputs K) (rf rpg : K)
    (cells : List (Cell K)) (h : fillRadialCells E genCounts x rf rpg = .ok cells) :
    cells.length = 535 ∧ (∀ i (h : i + 1 < cells.length), cells[i].rOut = cells[i + 1].rIn) ∧
    (∀ c ∈ cells.head?, c.rIn = (geometry E genCounts x).rFluid) ∧
    (∀ c ∈ cells.getLast?, c.rOut = ((Gen.Radial.rFarField : ℕ) : K)) ∧
    (cells[35]?.map (·.rIn) = some x.rB) := by
  rw [fillRadialCells_eq_ok E genCounts x rf rpg cells h]
  obtain ⟨a, b, c, d, _, _, _, e, _⟩ := cells_tile E genCounts gen_counts_positive.1 x rf rpg
  exact ⟨a.trans gen_counts_positive.2.1, b, c, d, e⟩

/-- (2) The fluid cells carry exactly the thermal mass of the fluid in both pipe legs:
    `Σ ρc_p·V = 2π r_pi² (ρc_p)_fluid` (the volumes telescope to `π(r_conv² − r_fluid²)`, which
    cancels the denominator of the equivalent heat capacity). -/
theorem fluid_thermal_mass {K : Type} [Field K] [CharZero K] (E : Env K) (C : Counts) (hC : C.Pos)
    (x : Inputs K) (rf rpg : K)
    (hden : (geometry E C x).rConv * (geometry E C x).rConv - (geometry E C x).rFluid * (geometry E C x).rFluid ≠ 0) :
    (((fillRadialCellsCore E C x rf rpg).take C.nFluid).map (fun c => c.rhoCp * c.vol)).sum
      = 2 * E.pi * (x.rPi * x.rPi) * x.rcFluid := by
  rw [core_take_fluid, span_mass_sum (Nat.cast_ne_zero.mpr hC.1.ne'), rhoCpEqFluid, div_mul_eq_mul_div,
    div_eq_iff hden]
  push_cast
  ring

/-- (3) The layers between the fluid and the borehole wall sum to the effective borehole
    resistance: `Σ_{conv,pipe,grout cells} ln(r_out/r_in)/(2π k_cell) = R_f/2 + (R_b − R_f/2) = R_b`,
    for any `log` with `log(a/b) = log a − log b` on positives (radii in order; `π`, the resistances
    and `hl1`, `hl2` non-zero).  Per cell, `ln(r_out/r_in) = ln(r_out/r_c) + ln(r_c/r_in)`: the
    matrix's two half-cell resistances. -/
theorem layers_sum_to_Rb {K : Type} [Field K] [LinearOrder K] [IsStrictOrderedRing K]
    (E : Env K) (hlog : LogDiv E) (C : Counts) (hC : C.Pos) (x : Inputs K)
    (h0 : 0 < (geometry E C x).rConv) (h1 : (geometry E C x).rConv < (geometry E C x).rInTube)
    (h2 : (geometry E C x).rInTube ≤ (geometry E C x).rOutTube) (h3 : (geometry E C x).rOutTube ≤ x.rB)
    (hl1 : E.log ((geometry E C x).rInTube / (geometry E C x).rConv) ≠ 0)
    (hl2 : E.log (x.rB / (geometry E C x).rInTube) ≠ 0)
    (hpi : E.pi ≠ 0) (hrf : x.Rf ≠ 0) (hrpg : x.Rb - x.Rf / 2 ≠ 0) :
    ((((fillRadialCellsCore E C x (x.Rf / 2) (x.Rb - x.Rf / 2)).drop C.nFluid).take (C.nConv + C.nPipe + C.nGrout)).map
        (fun c => E.log (c.rOut / c.rIn) / (2 * E.pi * c.k))).sum = x.Rb :=
  (core_layers_sum E hlog C hC x (x.Rf / 2) (x.Rb - x.Rf / 2) h0 h1 h2 h3 hl1 hl2 hpi
    (div_ne_zero hrf two_ne_zero) hrpg).trans (by ring)

theorem real_log_pos (E : Env ℝ) (hE : E.log = Real.log) : LogPos E := by
  intro x hx; rw [hE]; exact Real.log_pos hx

/-- (3, over ℝ) With `Real.log` and a valid geometry (`0 < r_conv < r_in_tube ≤ r_out_tube ≤ r_b`,
    `r_in_tube < r_b`, non-zero resistances) the hypotheses on `log` are discharged. -/
theorem layers_sum_to_Rb_real (E : Env ℝ) (hE : E.log = Real.log) (C : Counts) (hC : C.Pos) (x : Inputs ℝ)
    (h0 : 0 < (geometry E C x).rConv) (h1 : (geometry E C x).rConv < (geometry E C x).rInTube)
    (h2 : (geometry E C x).rInTube ≤ (geometry E C x).rOutTube) (h3 : (geometry E C x).rOutTube ≤ x.rB)
    (h4 : (geometry E C x).rInTube < x.rB)
    (hpi : E.pi ≠ 0) (hrf : x.Rf ≠ 0) (hrpg : x.Rb - x.Rf / 2 ≠ 0) :
    ((((fillRadialCellsCore E C x (x.Rf / 2) (x.Rb - x.Rf / 2)).drop C.nFluid).take (C.nConv + C.nPipe + C.nGrout)).map
        (fun c => Real.log (c.rOut / c.rIn) / (2 * E.pi * c.k))).sum = x.Rb := by
  have hlog : LogDiv E := fun a b ha hb => by rw [hE]; exact Real.log_div ha.ne' hb.ne'
  have hpos := real_log_pos E hE
  have := layers_sum_to_Rb E hlog C hC x h0 h1 h2 h3 (hpos.ratio h0 h1).ne' (hpos.ratio (h0.trans h1) h4).ne' hpi hrf hrpg
  rwa [hE] at this

/-- (4a) The conductance the code assembles on the east side of a cell is minus the one it
    assembles on the west side of its east neighbour (`ae i = −aw (i+1)`, and the scalar `ae` of
    cell 0 is `−aw` of cell 1): the fact a west/east slip breaks. -/
theorem conductance_symmetric {K : Type} [Field K] (E : Env K) (m : ℕ) (dt : K) (c : ℕ → Cell K) :
    (∀ i, i + 1 < m →
      (assemble E (m + 2) dt ((List.range (m + 2)).map c)).aw.getD (i + 1) 0
        = -(assemble E (m + 2) dt ((List.range (m + 2)).map c)).ae.getD i 0) ∧
    (0 < m → (assemble E (m + 2) dt ((List.range (m + 2)).map c)).aw.getD 0 0
        = -(assemble E (m + 2) dt ((List.range (m + 2)).map c)).ae0) := by
  simp only [assemble_range]
  constructor
  · intro i hi
    rw [getD_range_map (by omega), getD_range_map (by omega)]
  · intro hm
    rw [getD_range_map hm]

/-- (4b) Energy balance of one implicit step, an exact identity for non-zero heat capacities: any
    `T'` solving the assembled system satisfies
    `Σ_{i<n−1} C_i (T'_i − T_i) = q·Δt − ae_{n−2} (T'_{n−2} − T'_{n−1})·Δt`, `C_i = ρc_p V`. -/
theorem energy_balance {K : Type} [Field K] (E : Env K) (m : ℕ) (dt q : K) (c : ℕ → Cell K) (t t' : ℕ → K)
    (hdt : dt ≠ 0) (hcap : ∀ i, i ≤ m → (c i).rhoCp * (c i).vol ≠ 0)
    (h : SolvesTri (assemble E (m + 2) dt ((List.range (m + 2)).map c)).dl
            (assemble E (m + 2) dt ((List.range (m + 2)).map c)).d
            (assemble E (m + 2) dt ((List.range (m + 2)).map c)).du
            (rhs (m + 2) q (assemble E (m + 2) dt ((List.range (m + 2)).map c)).ad0 ((List.range (m + 2)).map t))
            ((List.range (m + 2)).map t')) :
    ∑ i ∈ Finset.range (m + 1), (c i).rhoCp * (c i).vol * (t' i - t i)
      = q * dt - cond E (c m) (c (m + 1)) * (t' m - t' (m + 1)) * dt := by
  rw [sum_capRate dt hdt, (solvesTri_stepEq E m dt q c t t' h).energy fun i hi => div_ne_zero (hcap i hi) hdt]
  ring

/-- (4c) Summed over `N` steps: stored = injected − leak, the leak being the flux into the fixed
    far-field cell. -/
theorem energy_balance_steps {K : Type} [Field K] (E : Env K) (m : ℕ) (dt q : K) (c : ℕ → Cell K)
    (Tk : ℕ → ℕ → K) (N : ℕ) (hdt : dt ≠ 0) (hcap : ∀ i, i ≤ m → (c i).rhoCp * (c i).vol ≠ 0)
    (h : ∀ k, k < N → SolvesTri (assemble E (m + 2) dt ((List.range (m + 2)).map c)).dl
            (assemble E (m + 2) dt ((List.range (m + 2)).map c)).d
            (assemble E (m + 2) dt ((List.range (m + 2)).map c)).du
            (rhs (m + 2) q (assemble E (m + 2) dt ((List.range (m + 2)).map c)).ad0 ((List.range (m + 2)).map (Tk k)))
            ((List.range (m + 2)).map (Tk (k + 1)))) :
    ∑ i ∈ Finset.range (m + 1), (c i).rhoCp * (c i).vol * (Tk N i - Tk 0 i)
      = (N : K) * q * dt
        - (∑ k ∈ Finset.range N, cond E (c m) (c (m + 1)) * (Tk (k + 1) m - Tk (k + 1) (m + 1))) * dt := by
  rw [sum_capRate dt hdt, energy_over_steps Tk N (fun k hk => solvesTri_stepEq E m dt q c (Tk k) (Tk (k + 1)) (h k hk))
    fun i hi => div_ne_zero (hcap i hi) hdt]
  ring

/-- (5a) Monotone response (by the discrete minimum principle; no upper bound is stated): positive
    conductances and capacities, `q ≥ 0`, uniform start `T0`; along ANY sequence of `N` exact solutions of
    the assembled system every cell temperature is non-decreasing from step to step and never below `T0`. -/
theorem discrete_max_principle {K : Type} [Field K] [LinearOrder K] [IsStrictOrderedRing K]
    (E : Env K) (m : ℕ) (dt q T0 : K) (c : ℕ → Cell K) (Tk : ℕ → ℕ → K) (N : ℕ)
    (hκ : ∀ i, i ≤ m → 0 < cond E (c i) (c (i + 1))) (ha : ∀ i, i ≤ m → 0 < capRate dt (c i)) (hq : 0 ≤ q)
    (hinit : ∀ i, i ≤ m + 1 → Tk 0 i = T0)
    (h : ∀ k, k < N → SolvesTri (assemble E (m + 2) dt ((List.range (m + 2)).map c)).dl
            (assemble E (m + 2) dt ((List.range (m + 2)).map c)).d
            (assemble E (m + 2) dt ((List.range (m + 2)).map c)).du
            (rhs (m + 2) q (assemble E (m + 2) dt ((List.range (m + 2)).map c)).ad0 ((List.range (m + 2)).map (Tk k)))
            ((List.range (m + 2)).map (Tk (k + 1)))) :
    ∀ k, k < N → ∀ i, i ≤ m + 1 → Tk k i ≤ Tk (k + 1) i ∧ T0 ≤ Tk k i :=
  monotone_in_time Tk T0 N (fun k hk => solvesTri_stepEq E m dt q c (Tk k) (Tk (k + 1)) (h k hk)) hκ ha hq hinit

/-- (5b) Hence the quantities the code appends per step, `g = c0·((T_fluid − T0)/q − R_b)` and
    `g_bhw = c0·((T_wall − T0)/q)` with `c0 = 2πk > 0`, `q > 0`, are non-decreasing in time,
    `g_bhw ≥ 0` and `g ≥ −c0·R_b = −2πk R_b`. -/
theorem g_monotone_and_bounded {K : Type} [Field K] [LinearOrder K] [IsStrictOrderedRing K]
    (E : Env K) (m : ℕ) (dt q T0 c0 rb : K) (bh : ℕ) (hbh : bh ≤ m + 1) (c : ℕ → Cell K) (Tk : ℕ → ℕ → K) (N : ℕ)
    (hκ : ∀ i, i ≤ m → 0 < cond E (c i) (c (i + 1))) (ha : ∀ i, i ≤ m → 0 < capRate dt (c i)) (hq : 0 < q)
    (hc0 : 0 < c0) (hinit : ∀ i, i ≤ m + 1 → Tk 0 i = T0)
    (h : ∀ k, k < N → SolvesTri (assemble E (m + 2) dt ((List.range (m + 2)).map c)).dl
            (assemble E (m + 2) dt ((List.range (m + 2)).map c)).d
            (assemble E (m + 2) dt ((List.range (m + 2)).map c)).du
            (rhs (m + 2) q (assemble E (m + 2) dt ((List.range (m + 2)).map c)).ad0 ((List.range (m + 2)).map (Tk k)))
            ((List.range (m + 2)).map (Tk (k + 1)))) (k : ℕ) (hk : k < N) :
    c0 * ((Tk k 0 - T0) / q - rb) ≤ c0 * ((Tk (k + 1) 0 - T0) / q - rb) ∧
    -(c0 * rb) ≤ c0 * ((Tk k 0 - T0) / q - rb) ∧
    c0 * ((Tk k bh - T0) / q) ≤ c0 * ((Tk (k + 1) bh - T0) / q) ∧
    0 ≤ c0 * ((Tk k bh - T0) / q) := by
  have mp := discrete_max_principle E m dt q T0 c Tk N hκ ha hq.le hinit h
  obtain ⟨f1, f2⟩ := mp k hk 0 (by omega)
  obtain ⟨w1, w2⟩ := mp k hk bh hbh
  have gb := gval_mono (r := 0) hc0 hq w2 w1
  simp only [sub_zero, mul_zero, neg_zero] at gb
  exact ⟨(gval_mono hc0 hq f2 f1).1, (gval_mono hc0 hq f2 f1).2, gb.1, gb.2⟩

/-- (5, hypotheses) Over ℝ with `Real.log`, `π > 0`: between two cells with positive radii,
    `r_c < r_out` resp. `r_in < r_c` and positive conductivities the assembled conductance is
    positive; a cell with positive heat capacity and volume has positive `ad` for `Δt > 0`. -/
theorem coefficients_positive_real (E : Env ℝ) (hE : E.log = Real.log) (hpi : 0 < E.pi) (a b : Cell ℝ) (dt : ℝ)
    (ha : 0 < a.rC ∧ a.rC < a.rOut ∧ 0 < a.k) (hb : 0 < b.rIn ∧ b.rIn < b.rC ∧ 0 < b.k)
    (hcap : 0 < a.rhoCp ∧ 0 < a.vol) (hdt : 0 < dt) :
    0 < cond E a b ∧ 0 < capRate dt a :=
  ⟨cond_pos E (real_log_pos E hE) hpi ha.1 ha.2.1 ha.2.2 hb.1 hb.2.1 hb.2.2,
    capRate_pos dt hdt hcap.1 hcap.2⟩

/-- (5c) The 30-point resampling (`numpy.linspace` + `numpy.interp`, as `interp1d` does) of a
    non-decreasing table over strictly increasing abscissae is non-decreasing and stays within
    the table's range.  (The raw `lntts` strictly increasing is a hypothesis; nothing is stated about `u`.) -/
theorem resample_monotone {K : Type} [Field K] [LinearOrder K] [IsStrictOrderedRing K]
    (E : Env K) (hle : LeSpec E) (xs ys : List K) (x0 y0 : K) (num : ℕ) (hnum : 2 ≤ num)
    (hl : xs.length = ys.length) (hx : IsChain (· < ·) (x0 :: xs)) (hy : IsChain (· ≤ ·) (y0 :: ys))
    (u v : List K) (h : resample E (x0 :: xs) (y0 :: ys) num = .ok (u, v)) :
    IsChain (· ≤ ·) v ∧ ∀ w ∈ v, y0 ≤ w ∧ w ≤ lastOf y0 ys :=
  resample_mono E hle xs ys x0 y0 num hnum hl hx hy u v h

/-- (6) The model's own tridiagonal elimination (`triSolve`: `factorGo`, `fwdGo`, `backGo`) returns an
    EXACT solution of the system it assembled, for every right-hand side, whenever conductances and
    capacities are positive (strict row diagonal dominance ⇒ no zero pivot; induction over the rows). -/
theorem triSolve_exact {K : Type} [Field K] [LinearOrder K] [IsStrictOrderedRing K]
    (E : Env K) (m : ℕ) (dt : K) (c : ℕ → Cell K) (b : List K) (hb : b.length = m + 2)
    (hκ : ∀ i, i ≤ m → 0 < Radial.cond E (c i) (c (i + 1))) (ha : ∀ i, i ≤ m → 0 < capRate dt (c i)) :
    SolvesTri (assemble E (m + 2) dt ((List.range (m + 2)).map c)).dl
      (assemble E (m + 2) dt ((List.range (m + 2)).map c)).d
      (assemble E (m + 2) dt ((List.range (m + 2)).map c)).du b
      (triSolve (assemble E (m + 2) dt ((List.range (m + 2)).map c)).dl
        (assemble E (m + 2) dt ((List.range (m + 2)).map c)).d
        (assemble E (m + 2) dt ((List.range (m + 2)).map c)).du b) :=
  triSolve_solves_assembled E m dt c b hb hκ ha

/-- (6') In general: the elimination is exact for any tridiagonal system none of whose pivots
    vanishes, and strict row diagonal dominance `|l| + |u| < |d|` excludes a zero pivot. -/
theorem triSolve_exact_of_dominance {K : Type} [Field K] [LinearOrder K] [IsStrictOrderedRing K]
    (dl d du b : List K) (hdl : dl.length + 1 = d.length) (hdu : du.length + 1 = d.length) (hb : b.length = d.length)
    (hdom : ∀ r ∈ rowsOf dl d du, |r.1| + |r.2.2| < |r.2.1|) :
    SolvesTri dl d du b (triSolve dl d du b) :=
  triSolve_solves_of_pivots dl d du b hdl hdu hb (by
    unfold factor; exact pivots_ne_zero _ _ _ (by simp only [Nat.cast_zero, Nat.cast_one, abs_zero, abs_one, zero_lt_one]) hdom)

/-- (7) For `modelTraj k`, the `k`-th iterate of the model's loop body `solveFac fac (rhs …)` (see
    (10)), with positive conductances/capacities, `q > 0`, uniform start `T0`:
    energy balance over any number of steps, every temperature non-decreasing and `≥ T0`, and the
    appended `g`, `g_bhw` non-decreasing with `g_bhw ≥ 0`, `g ≥ −c0·R_b`. -/
theorem model_trajectory {K : Type} [Field K] [LinearOrder K] [IsStrictOrderedRing K]
    (E : Env K) (m : ℕ) (dt q T0 c0 rb : K) (bh : ℕ) (hbh : bh ≤ m + 1) (c : ℕ → Cell K) (Tinit : List K)
    (hlen : Tinit.length = m + 2) (hinit : ∀ i, i ≤ m + 1 → Tinit.getD i 0 = T0)
    (hκ : ∀ i, i ≤ m → 0 < Radial.cond E (c i) (c (i + 1))) (ha : ∀ i, i ≤ m → 0 < capRate dt (c i))
    (hdt : 0 < dt) (hq : 0 < q) (hc0 : 0 < c0) :
    (∀ N : ℕ, ∑ i ∈ Finset.range (m + 1), (c i).rhoCp * (c i).vol
          * ((modelTraj E m dt q c Tinit N).getD i 0 - (modelTraj E m dt q c Tinit 0).getD i 0)
        = (N : K) * q * dt - (∑ k ∈ Finset.range N, Radial.cond E (c m) (c (m + 1))
            * ((modelTraj E m dt q c Tinit (k + 1)).getD m 0 - (modelTraj E m dt q c Tinit (k + 1)).getD (m + 1) 0)) * dt) ∧
    (∀ k i, i ≤ m + 1 → (modelTraj E m dt q c Tinit k).getD i 0 ≤ (modelTraj E m dt q c Tinit (k + 1)).getD i 0
        ∧ T0 ≤ (modelTraj E m dt q c Tinit k).getD i 0) ∧
    (∀ k, c0 * (((modelTraj E m dt q c Tinit k).getD 0 0 - T0) / q - rb)
          ≤ c0 * (((modelTraj E m dt q c Tinit (k + 1)).getD 0 0 - T0) / q - rb) ∧
        -(c0 * rb) ≤ c0 * (((modelTraj E m dt q c Tinit k).getD 0 0 - T0) / q - rb) ∧
        c0 * (((modelTraj E m dt q c Tinit k).getD bh 0 - T0) / q)
          ≤ c0 * (((modelTraj E m dt q c Tinit (k + 1)).getD bh 0 - T0) / q) ∧
        0 ≤ c0 * (((modelTraj E m dt q c Tinit k).getD bh 0 - T0) / q)) := by
  have hs := fun k => modelTraj_solves E m dt q c Tinit hlen hκ ha k
  have hcap : ∀ i, i ≤ m → (c i).rhoCp * (c i).vol ≠ 0 := fun i hi h0 =>
    (ha i hi).ne' (by rw [capRate, h0, zero_div])
  refine ⟨fun N => ?_, fun k i hi => ?_, fun k => ?_⟩
  · exact energy_balance_steps E m dt q c (fun k i => (modelTraj E m dt q c Tinit k).getD i 0) N hdt.ne' hcap
      (fun k _ => hs k)
  · exact discrete_max_principle E m dt q T0 c (fun k i => (modelTraj E m dt q c Tinit k).getD i 0) (k + 1) hκ ha hq.le hinit
      (fun k _ => hs k) k (by omega) i hi
  · exact g_monotone_and_bounded E m dt q T0 c0 rb bh hbh c (fun k i => (modelTraj E m dt q c Tinit k).getD i 0) (k + 1)
      hκ ha hq hc0 hinit (fun k _ => hs k) k (by omega)

/-- (8) Positivity for the WHOLE cell table from the inputs: for valid inputs (`ValidInputs`) and any
    `log` positive above 1, every cell is well-formed and every conductance / capacity rate of the
    assembled system is positive. -/
theorem table_coefficients_positive {K : Type} [Field K] [LinearOrder K] [IsStrictOrderedRing K]
    (E : Env K) (hlog : LogPos E) (C : Counts) (x : Inputs K) (rf rpg dt : K)
    (hv : ValidInputs E C x rf rpg) (hdt : 0 < dt) (dflt : Cell K) :
    (∀ c ∈ fillRadialCellsCore E C x rf rpg, CellOK c) ∧
    (∀ i, i + 1 < (fillRadialCellsCore E C x rf rpg).length →
      0 < Radial.cond E ((fillRadialCellsCore E C x rf rpg).getD i dflt) ((fillRadialCellsCore E C x rf rpg).getD (i + 1) dflt)) ∧
    (∀ i, i < (fillRadialCellsCore E C x rf rpg).length →
      0 < capRate dt ((fillRadialCellsCore E C x rf rpg).getD i dflt)) :=
  ⟨core_cells_ok E hlog C x rf rpg hv, core_coefficients_pos E hlog C x rf rpg dt hv hdt dflt⟩

/-- (9) Capstone: for valid inputs, on the table `fill_radial_cells` builds and from its uniform initial
    temperatures, the iterates `modelTraj` of the model's loop body obey the energy balance, are
    non-decreasing and ≥ the initial temperature, and `g`, `g_bhw` are non-decreasing with
    `g_bhw ≥ 0`, `g ≥ −c0·R_b` — no hypothesis about the solve or the coefficients is left. -/
theorem model_response_valid_inputs {K : Type} [Field K] [LinearOrder K] [IsStrictOrderedRing K]
    (E : Env K) (hlog : LogPos E) (C : Counts) (x : Inputs K) (rf rpg : K) (hv : ValidInputs E C x rf rpg)
    (m : ℕ) (hm : C.total = m + 2) (dt q c0 rb : K) (bh : ℕ) (hbh : bh ≤ m + 1)
    (hdt : 0 < dt) (hq : 0 < q) (hc0 : 0 < c0) (dflt : Cell K) :
    (List.range (m + 2)).map (fun i => (fillRadialCellsCore E C x rf rpg).getD i dflt) = fillRadialCellsCore E C x rf rpg ∧
    (∀ N : ℕ, ∑ i ∈ Finset.range (m + 1),
          ((fillRadialCellsCore E C x rf rpg).getD i dflt).rhoCp * ((fillRadialCellsCore E C x rf rpg).getD i dflt).vol
          * ((modelTraj E m dt q (fun i => (fillRadialCellsCore E C x rf rpg).getD i dflt)
                ((fillRadialCellsCore E C x rf rpg).map (·.temp)) N).getD i 0
             - (modelTraj E m dt q (fun i => (fillRadialCellsCore E C x rf rpg).getD i dflt)
                ((fillRadialCellsCore E C x rf rpg).map (·.temp)) 0).getD i 0)
        = (N : K) * q * dt - (∑ k ∈ Finset.range N,
            Radial.cond E ((fillRadialCellsCore E C x rf rpg).getD m dflt) ((fillRadialCellsCore E C x rf rpg).getD (m + 1) dflt)
            * ((modelTraj E m dt q (fun i => (fillRadialCellsCore E C x rf rpg).getD i dflt)
                  ((fillRadialCellsCore E C x rf rpg).map (·.temp)) (k + 1)).getD m 0
               - (modelTraj E m dt q (fun i => (fillRadialCellsCore E C x rf rpg).getD i dflt)
                  ((fillRadialCellsCore E C x rf rpg).map (·.temp)) (k + 1)).getD (m + 1) 0)) * dt) ∧
    (∀ k i, i ≤ m + 1 →
        (modelTraj E m dt q (fun i => (fillRadialCellsCore E C x rf rpg).getD i dflt)
            ((fillRadialCellsCore E C x rf rpg).map (·.temp)) k).getD i 0
          ≤ (modelTraj E m dt q (fun i => (fillRadialCellsCore E C x rf rpg).getD i dflt)
            ((fillRadialCellsCore E C x rf rpg).map (·.temp)) (k + 1)).getD i 0
        ∧ ((Gen.Radial.initTemp : ℕ) : K)
          ≤ (modelTraj E m dt q (fun i => (fillRadialCellsCore E C x rf rpg).getD i dflt)
            ((fillRadialCellsCore E C x rf rpg).map (·.temp)) k).getD i 0) ∧
    (∀ k, c0 * (((modelTraj E m dt q (fun i => (fillRadialCellsCore E C x rf rpg).getD i dflt)
              ((fillRadialCellsCore E C x rf rpg).map (·.temp)) k).getD 0 0 - ((Gen.Radial.initTemp : ℕ) : K)) / q - rb)
          ≤ c0 * (((modelTraj E m dt q (fun i => (fillRadialCellsCore E C x rf rpg).getD i dflt)
              ((fillRadialCellsCore E C x rf rpg).map (·.temp)) (k + 1)).getD 0 0 - ((Gen.Radial.initTemp : ℕ) : K)) / q - rb) ∧
        -(c0 * rb) ≤ c0 * (((modelTraj E m dt q (fun i => (fillRadialCellsCore E C x rf rpg).getD i dflt)
              ((fillRadialCellsCore E C x rf rpg).map (·.temp)) k).getD 0 0 - ((Gen.Radial.initTemp : ℕ) : K)) / q - rb) ∧
        c0 * (((modelTraj E m dt q (fun i => (fillRadialCellsCore E C x rf rpg).getD i dflt)
              ((fillRadialCellsCore E C x rf rpg).map (·.temp)) k).getD bh 0 - ((Gen.Radial.initTemp : ℕ) : K)) / q)
          ≤ c0 * (((modelTraj E m dt q (fun i => (fillRadialCellsCore E C x rf rpg).getD i dflt)
              ((fillRadialCellsCore E C x rf rpg).map (·.temp)) (k + 1)).getD bh 0 - ((Gen.Radial.initTemp : ℕ) : K)) / q) ∧
        0 ≤ c0 * (((modelTraj E m dt q (fun i => (fillRadialCellsCore E C x rf rpg).getD i dflt)
              ((fillRadialCellsCore E C x rf rpg).map (·.temp)) k).getD bh 0 - ((Gen.Radial.initTemp : ℕ) : K)) / q)) := by
  have hlen : (fillRadialCellsCore E C x rf rpg).length = m + 2 := by rw [core_length, hm]
  obtain ⟨hk, hcap⟩ := core_coefficients_pos E hlog C x rf rpg dt hv hdt dflt
  exact ⟨list_eq_range_map _ dflt hlen, model_trajectory E m dt q _ c0 rb bh hbh _ _ (by simp [hlen])
    (fun i hi => core_temp_getD E C x rf rpg (by omega)) (fun i hi => hk i (by omega)) (fun i hi => hcap i (by omega))
    hdt hq hc0⟩

/-- (10) One pass of the loop body of `calc_sts_g_functions` in the model (`stepOnce` with the
    factorisation `calcSts` passes in) updates the temperatures by `modelStep`, the function `modelTraj`
    iterates, and the `g`, `g_bhw` it appends are the expressions of (7)/(9) at the new temperatures.
    The induction over the passes of `loopGo` is not stated. -/
theorem loop_body_is_modelStep {K : Type} [Field K] [LinearOrder K] [IsStrictOrderedRing K]
    (E : Env K) (m bhIdx : ℕ) (dt q tS c0 rb : K) (c : ℕ → Cell K) (s s' : LoopState K)
    (h : stepOnce E (m + 2) bhIdx
          (factor (rowsOf (assemble E (m + 2) dt ((List.range (m + 2)).map c)).dl
                          (assemble E (m + 2) dt ((List.range (m + 2)).map c)).d
                          (assemble E (m + 2) dt ((List.range (m + 2)).map c)).du))
          (assemble E (m + 2) dt ((List.range (m + 2)).map c)).ad0 q dt tS c0 rb s = .ok s') :
    s'.T = modelStep E m dt q c s.T ∧
    s'.g = c0 * ((s'.T.headD 0 - ((Gen.Radial.initTemp : ℕ) : K)) / q - rb) :: s.g ∧
    s'.gBhw = c0 * (((s'.T.drop bhIdx).headD 0 - ((Gen.Radial.initTemp : ℕ) : K)) / q) :: s.gBhw := by
  obtain ⟨h1, _, _, h4, h5⟩ := stepOnce_eq_ok E (m + 2) bhIdx _ _ q dt tS c0 rb s s' h
  exact ⟨h1, h4, h5⟩

/-! ### Non-vacuity: concrete instances on which the hypotheses hold -/

/-- A rational environment (`log x := x - 1` is positive on ratios above 1, which is all the
    time-stepping theorems need) and a borehole close to the repository's test case. -/
def E0 : Env ℚ := { log := fun x => x - 1, exp := fun _ => 1, sqrt2 := 7 / 5, pi := 22 / 7, le := fun a b => decide (a ≤ b) }
def x0 : Inputs ℚ :=
  { rB := 3 / 40, rPo := 211 / 10000, rPi := 17 / 1000, kSoil := 2, rcSoil := 3901000, rcGrout := 2000000,
    rcPipe := 1542000, rcFluid := 4174436, Rf := 1 / 250, Rb := 1 / 5, H := 100, ks := 2 }

-- (1),(1'): the checked function does return a table on this input, of 535 cells
example : ∃ cells, fillRadialCells E0 genCounts x0 (1 / 500) (99 / 500) = .ok cells ∧ cells.length = 535 := by
  have h : fillChecks E0 genCounts x0 (1 / 500) (99 / 500) = none := by decide +kernel
  exact ⟨fillRadialCellsCore E0 genCounts x0 (1 / 500) (99 / 500), by unfold fillRadialCells; rw [h],
    (core_length ..).trans gen_counts_positive.2.1⟩

-- (2): the denominator hypothesis holds
example : (geometry E0 genCounts x0).rConv * (geometry E0 genCounts x0).rConv
    - (geometry E0 genCounts x0).rFluid * (geometry E0 genCounts x0).rFluid ≠ 0 := by decide +kernel

-- (4),(5): a 3-cell system; two exact implicit steps computed by the model's own Thomas solve
def c3 : ℕ → Cell ℚ := fun i =>
  { rIn := i + 1, rC := i + 3 / 2, rOut := i + 2, k := 1, rhoCp := 1, temp := 0, vol := 22 / 7 * (2 * i + 3) }
def sys3 : TriSys ℚ := assemble E0 3 1 ((List.range 3).map c3)
def step3 (T : List ℚ) : List ℚ := triSolve sys3.dl sys3.d sys3.du (rhs 3 1 sys3.ad0 T)
def T3 : ℕ → ℕ → ℚ := fun k i => ((step3^[k]) [0, 0, 0]).getD i 0

example : (∀ i, i ≤ 1 → 0 < Radial.cond E0 (c3 i) (c3 (i + 1))) ∧ (∀ i, i ≤ 1 → 0 < capRate 1 (c3 i)) ∧
    (∀ i, i ≤ 1 → (c3 i).rhoCp * (c3 i).vol ≠ 0) := by decide +kernel

example : ∀ k, k < 2 → SolvesTri sys3.dl sys3.d sys3.du (rhs 3 1 sys3.ad0 ((List.range 3).map (T3 k)))
    ((List.range 3).map (T3 (k + 1))) := by decide +kernel

-- (5c): the comparison of `E0` is the order of ℚ, and a monotone table is resampled
example : LeSpec E0 := fun a b => by simp [E0]
example : ∃ u v, resample E0 (0 :: [1, 3]) (0 :: [2, 2]) 5 = .ok (u, v) ∧ v = [0, 3 / 2, 2, 2, 2] :=
  ⟨_, _, rfl, by decide +kernel⟩

-- (3): a real environment and a valid geometry
noncomputable def ER : Env ℝ :=
  { log := Real.log, exp := Real.exp, sqrt2 := 7 / 5, pi := 22 / 7, le := fun a b => decide (a ≤ b) }
noncomputable def xR : Inputs ℝ :=
  { rB := 3 / 40, rPo := 211 / 10000, rPi := 17 / 1000, kSoil := 2, rcSoil := 3901000, rcGrout := 2000000,
    rcPipe := 1542000, rcFluid := 4174436, Rf := 1 / 250, Rb := 1 / 5, H := 100, ks := 2 }
example : 0 < (geometry ER genCounts xR).rConv ∧ (geometry ER genCounts xR).rConv < (geometry ER genCounts xR).rInTube ∧
    (geometry ER genCounts xR).rInTube ≤ (geometry ER genCounts xR).rOutTube ∧ (geometry ER genCounts xR).rOutTube ≤ xR.rB ∧
    (geometry ER genCounts xR).rInTube < xR.rB ∧ ER.pi ≠ 0 ∧ xR.Rf ≠ 0 ∧ xR.Rb - xR.Rf / 2 ≠ 0 := by
  simp only [geometry, ER, xR]
  norm_num

-- (6),(7): the 3-cell system above has positive coefficients, so `triSolve_exact` / `model_trajectory` apply to it
example : ∀ k, (modelTraj E0 1 1 1 c3 [0, 0, 0] k).getD 0 0 ≤ (modelTraj E0 1 1 1 c3 [0, 0, 0] (k + 1)).getD 0 0 := by
  have h : (∀ i, i ≤ 1 → 0 < Radial.cond E0 (c3 i) (c3 (i + 1))) ∧ (∀ i, i ≤ 1 → 0 < capRate 1 (c3 i)) := by decide +kernel
  intro k
  exact ((model_trajectory E0 1 1 1 0 1 0 1 (by omega) c3 [0, 0, 0] rfl (by decide +kernel) h.1 h.2 one_pos one_pos one_pos).2.1
    k 0 (by omega)).1

-- (8),(9): `log x := x - 1` is positive above 1 and the inputs `x0` are valid
example : LogPos E0 := fun x hx => by simp only [E0]; linarith
example : ValidInputs E0 genCounts x0 (1 / 500) (99 / 500) :=
  ⟨by decide +kernel, gen_counts_positive.1, by decide +kernel, by decide +kernel, by decide +kernel, by decide +kernel,
   by decide +kernel, by decide +kernel, by decide +kernel, by decide +kernel, by decide +kernel, by decide +kernel,
   by decide +kernel, by decide +kernel⟩

end GHEVerif.C10
