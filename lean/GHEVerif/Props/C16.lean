/-
  C16 — Point-in-polygon classification used for land constraints is exact.

  `classify tol poly p` (Model/Polygon.lean) transcribes `shape.point_polygon_check`; its
  per-edge decisions, return values and default tolerances are `GHEVerif.Gen.*`, regenerated from
  ghedesigner/shape.py and feature_recognition.py on every check, so a changed comparison in the
  source changes the statement these proofs are about.

  Not proved (out of scope, DESIGN.md): odd crossing number ⇔ topological interior of a simple
  polygon (Jordan curve theorem).  The property asks for agreement with the crossing-number
  definition; that is what is proved, for every vertex list (no simplicity, convexity or
  orientation hypothesis) and every rational point.
-/
import GHEVerif.Lemmas.Polygon
import Mathlib.Algebra.Group.Nat.Even

namespace GHEVerif.C16
open GHEVerif GHEVerif.Polygon

/-! ### 1. The executable on-edge test is the documented tolerance band, exactly -/

/-- `ltMulSqrt x c d` decides `x < c·√d` over the reals. -/
theorem ltMulSqrt_iff (x c d : ℚ) (hd : 0 ≤ d) :
    ltMulSqrt x c d = true ↔ (x : ℝ) < (c : ℝ) * Real.sqrt (d : ℝ) :=
  Polygon.ltMulSqrt_iff x c d hd

/-- The squaring cascade decides `√a + √b − √d < t` (for a positive tolerance) over the reals. -/
theorem ltSumSqrt_iff (a b d t : ℚ) (ha : 0 ≤ a) (hb : 0 ≤ b) (hd : 0 ≤ d) :
    ltSumSqrt a b d t = true ↔
      0 < t ∧ Real.sqrt (a : ℝ) + Real.sqrt (b : ℝ) - Real.sqrt (d : ℝ) < (t : ℝ) :=
  Polygon.ltSumSqrt_iff a b d t ha hb hd

/-- The model's band test of one edge is the source's comparison
    `abs(distance(v1,p) + distance(v2,p) - distance(v1,v2)) < on_edge_tolerance`
    evaluated in real arithmetic (`rdist a b = √((a₀−b₀)² + (a₁−b₁)²)`): the ellipse
    `|pA| + |pB| < |AB| + tol` with foci at the edge ends. -/
theorem bandTest_iff (tol : ℚ) (e : Edge) (p : Pt) :
    onBand tol e p = true ↔ |rdist e.1 p + rdist e.2 p - rdist e.1 e.2| < (tol : ℝ) :=
  onBand_iff tol e p

/-- The `abs` in the source is redundant in exact arithmetic (triangle inequality). -/
theorem band_value_nonneg (e : Edge) (p : Pt) : 0 ≤ rdist e.1 p + rdist e.2 p - rdist e.1 e.2 :=
  sub_nonneg.mpr (rdist_triangle e.1 e.2 p)

/-- Both call sites use a positive tolerance (the defaults of `point_polygon_check` and of
    `remove_cutout`, read from the source). -/
theorem default_tolerances_positive : 0 < Gen.ppcTolDefault ∧ 0 < Gen.cutoutTolDefault := by
  unfold Gen.ppcTolDefault Gen.cutoutTolDefault; constructor <;> norm_num

/-! ### 2. Inside / outside is the crossing number with the half-open vertex rule -/

/-- Complete closed form of `point_polygon_check`: `0` in the band of some edge, else `0` when a
    counted edge passes through the point, else `1`/`-1` by the parity of
    `crossings poly p = #{edges : min y < p.y ≤ max y ∧ p.x < xAt(edge, p.y)}`. -/
theorem classify_closed_form (tol : ℚ) (poly : List Pt) (p : Pt) :
    classify tol poly p = spec tol poly p :=
  classify_eq_spec tol poly p

/-- Core step: on an edge whose half-open vertical range contains `p.y`, the source's cross
    product is `(xAt − p.x)·(v2y − v1y)`, so `c == 0` ⇔ the edge passes through `p`, and the
    toggle condition `(v1y < v2y) == (c > 0)` ⇔ the edge is strictly to the right of `p`. -/
theorem edge_step_is_crossing (e : Edge) (p : Pt) :
    (counted e p = false → edgeStep e p = .skip) ∧
    (counted e p = true →
      cross e p = (xAt e p.2 - p.1) * (e.2.2 - e.1.2) ∧
      edgeStep e p = if xAt e p.2 = p.1 then .zero else if p.1 < xAt e p.2 then .toggle else .keep) :=
  ⟨edgeStep_of_not_counted e p, fun h => ⟨cross_eq e p (counted_ne e p h), edgeStep_of_counted e p h⟩⟩

/-- For every vertex list and every point not caught by the band test and with no `c == 0` hit:
    inside ⇔ odd crossing number, outside ⇔ even crossing number. -/
theorem ray_eq_crossing_number (tol : ℚ) (poly : List Pt) (p : Pt)
    (hb : ∀ e ∈ edges poly, onBand tol e p = false)
    (hz : ∀ e ∈ edges poly, counted e p = true → cross e p ≠ 0) :
    (classify tol poly p = 1 ↔ Odd (crossings poly p)) ∧
    (classify tol poly p = -1 ↔ Even (crossings poly p)) := by
  rw [classify_eq_spec]
  unfold spec
  have h1 : (edges poly).any (fun e => onBand tol e p) = false := by
    rw [List.any_eq_false]; intro e he; simp [hb e he]
  have h2 : (edges poly).any (fun e => hitsLine e p) = false := by
    rw [List.any_eq_false]; intro e he hh
    obtain ⟨hc, h0⟩ := (hitsLine_iff e p).mp hh
    exact hz e he hc h0
  rw [h1, h2]
  simp only [Bool.false_eq_true, if_false, Nat.odd_iff, Nat.even_iff]
  rcases Nat.mod_two_eq_zero_or_one (crossings poly p) with h | h <;> simp [h]

/-! ### 3. `0` is returned exactly in the tolerance band -/

/-- `c == 0` inside the half-open vertical range ⇒ the point lies on the closed segment. -/
theorem c_zero_on_segment (e : Edge) (p : Pt) (hc : counted e p = true) (h0 : cross e p = 0) :
    OnSegment e p :=
  hitsLine_onSegment e p ((hitsLine_iff e p).mpr ⟨hc, h0⟩)

/-- With a positive tolerance the `c == 0` hypothesis is automatic: outside the band,
    the answer is exactly the crossing-number parity. -/
theorem ray_eq_crossing_number_pos_tol (tol : ℚ) (htol : 0 < tol) (poly : List Pt) (p : Pt)
    (hb : ∀ e ∈ edges poly, onBand tol e p = false) :
    (classify tol poly p = 1 ↔ Odd (crossings poly p)) ∧
    (classify tol poly p = -1 ↔ Even (crossings poly p)) := by
  refine ray_eq_crossing_number tol poly p hb fun e he hc h0 => ?_
  have := onSegment_onBand tol htol e p (c_zero_on_segment e p hc h0)
  rw [hb e he] at this; cases this

/-- Every point of the closed boundary is reported on-edge (any positive tolerance; includes
    vertices, horizontal edges and the lower end points that the ray loop skips). -/
theorem boundary_reported_on_edge (tol : ℚ) (htol : 0 < tol) (poly : List Pt) (p : Pt)
    (e : Edge) (he : e ∈ edges poly) (hp : OnSegment e p) : classify tol poly p = 0 := by
  rw [classify_of_pos_tol tol htol, if_pos (List.any_eq_true.mpr ⟨e, he, onSegment_onBand tol htol e p hp⟩)]

/-- `0` is returned exactly in the tolerance band (positive tolerance): `classify = 0` ⇔ for some edge
    the source's comparison `|d(v1,p) + d(v2,p) − d(v1,v2)| < tol` holds over the reals — the
    focal-sum ellipse of `bandTest_iff`, not a distance band. -/
theorem on_edge_iff_in_band (tol : ℚ) (htol : 0 < tol) (poly : List Pt) (p : Pt) :
    classify tol poly p = 0 ↔
      ∃ e ∈ edges poly, |rdist e.1 p + rdist e.2 p - rdist e.1 e.2| < (tol : ℝ) := by
  rw [classify_of_pos_tol tol htol, ← any_onBand_iff]
  split_ifs with hb
  · exact iff_of_true rfl hb
  · exact iff_of_false (by decide) hb
  · exact iff_of_false (by decide) hb

/-- The result is always one of −1, 0, 1. -/
theorem classify_range (tol : ℚ) (poly : List Pt) (p : Pt) :
    classify tol poly p = -1 ∨ classify tol poly p = 0 ∨ classify tol poly p = 1 :=
  Polygon.classify_range tol poly p

/-! ### 4. Irrespective of vertex order and orientation -/

/-- Starting the vertex list at another vertex does not change the result. -/
theorem classify_rotate (tol : ℚ) (poly : List Pt) (p : Pt) (k : ℕ) :
    classify tol (poly.rotate k) p = classify tol poly p := by
  rw [classify_eq_spec, classify_eq_spec]; exact spec_congr _ _ _ _ (Or.inl (edges_rotate poly k))

/-- Listing the vertices in the opposite orientation does not change the result. -/
theorem classify_reverse (tol : ℚ) (poly : List Pt) (p : Pt) :
    classify tol poly.reverse p = classify tol poly p := by
  rw [classify_eq_spec, classify_eq_spec]; exact spec_congr _ _ _ _ (Or.inr (edges_reverse poly))

/-! ### 5. The degenerate alignments -/

/-- A horizontal edge never takes part in the ray loop, wherever the point is (in particular
    when the point is level with it or collinear with it). -/
theorem horizontal_edge_ignored (e : Edge) (p : Pt) (h : e.1.2 = e.2.2) :
    edgeStep e p = .skip ∧ crosses e p = false ∧ hitsLine e p = false := by
  have hc : counted e p = false := Bool.eq_false_iff.mpr fun hc => counted_ne e p hc h
  exact ⟨edgeStep_of_not_counted e p hc, by simp [crosses, hc], by simp [hitsLine, hc]⟩

/-- A point level with a vertex `v` (neighbours `u`, `w`): the two edges at `v` contribute
    one crossing when the boundary passes through the level (`u`, `w` on opposite sides), two or
    none when `v` is a local maximum (parity unchanged), none when `v` is a local minimum or a
    neighbour is level — and only when `v` is strictly to the right of the point. -/
theorem vertex_level_counted_once (u v w : Pt) (p : Pt) (hp : p.2 = v.2) :
    (counted (u, v) p = true ↔ u.2 < v.2) ∧ (counted (v, w) p = true ↔ w.2 < v.2) ∧
    ((u.2 < v.2 ∧ v.2 < w.2) ∨ (w.2 < v.2 ∧ v.2 < u.2) →
      [(u, v), (v, w)].countP (fun e => crosses e p) = if p.1 < v.1 then 1 else 0) ∧
    (u.2 < v.2 ∧ w.2 < v.2 →
      [(u, v), (v, w)].countP (fun e => crosses e p) = if p.1 < v.1 then 2 else 0) ∧
    (v.2 ≤ u.2 ∧ v.2 ≤ w.2 → [(u, v), (v, w)].countP (fun e => crosses e p) = 0) := by
  have c1 : counted (u, v) p = true ↔ u.2 < v.2 := by rw [counted_of_level u v p hp, decide_eq_true_iff]
  have c2 : counted (v, w) p = true ↔ w.2 < v.2 := by
    rw [← counted_swap, Prod.swap_prod_mk, counted_of_level w v p hp, decide_eq_true_iff]
  have k1 := crosses_of_level u v p hp
  have k2 : crosses (v, w) p = (decide (w.2 < v.2) && decide (p.1 < v.1)) := by
    rw [← crosses_swap, Prod.swap_prod_mk, crosses_of_level w v p hp]
  refine ⟨c1, c2, ?_, ?_, ?_⟩
  · rintro (⟨h1, h2⟩ | ⟨h1, h2⟩)
    · have h3 : ¬ w.2 < v.2 := not_lt.mpr h2.le
      by_cases hx : p.1 < v.1 <;> simp [k1, k2, h1, h3, hx]
    · have h3 : ¬ u.2 < v.2 := not_lt.mpr h2.le
      by_cases hx : p.1 < v.1 <;> simp [k1, k2, h1, h3, hx]
  · rintro ⟨h1, h2⟩
    by_cases hx : p.1 < v.1 <;> simp [k1, k2, h1, h2, hx]
  · rintro ⟨h1, h2⟩
    simp [k1, k2, not_lt.mpr h1, not_lt.mpr h2]

/-! ### Non-vacuity -/

/-- The cascade on concrete radicands: `√1 + √1 − √4 = 0 < 10⁻³`, `√1 + √1 − √1 = 1 ≮ ½`,
    `√2 + √2 − √8 = 0`, and `√(1/4) + √(9/4) − √1 = 1 ≮ 1`, `< 1 + 10⁻⁹`. -/
example : ltSumSqrt 1 1 4 (1 / 1000) = true ∧ ltSumSqrt 1 1 1 (1 / 2) = false ∧
    ltSumSqrt 2 2 8 (1 / 1000000) = true ∧ ltSumSqrt (1 / 4) (9 / 4) 1 1 = false ∧
    ltSumSqrt (1 / 4) (9 / 4) 1 (1 + 1 / 1000000000) = true ∧
    ltMulSqrt 1 1 2 = true ∧ ltMulSqrt 3 2 2 = false ∧ ltMulSqrt (-3) (-2) 2 = true := by decide +kernel

/-- The band is the source's ellipse, not a distance band: on a 100 m side the point 0.2 m away
    from the boundary is reported on-edge at the default tolerance 10⁻³ (half-width ≈ √(tol·L/2)),
    0.25 m away is not. -/
example : classify (1 / 1000) [(0, 0), (100, 0), (100, 100), (0, 100)] (50, 1 / 5) = 0 ∧
    classify (1 / 1000) [(0, 0), (100, 0), (100, 100), (0, 100)] (50, 1 / 4) = 1 := by decide +kernel

/-- A concave hexagon (a V-shaped notch cut from the top, reflex vertex `(2, 1)`). -/
def hexagon : List Pt := [(0, 0), (4, 0), (4, 3), (2, 1), (1, 3), (0, 3)]

/-- The point `(1, 1)` is level with the reflex vertex `(2, 1)`; the ray to the right passes
    through that vertex (a local minimum of the boundary: counted zero times) and leaves through
    the right side: one crossing, inside. -/
example : classify (1 / 1000) hexagon (1, 1) = 1 ∧ crossings hexagon (1, 1) = 1 := by decide +kernel

/-- …and the hypotheses of `ray_eq_crossing_number` hold there. -/
example : (∀ e ∈ edges hexagon, onBand (1 / 1000) e (1, 1) = false) ∧
    (∀ e ∈ edges hexagon, counted e (1, 1) = true → cross e (1, 1) ≠ 0) := by decide +kernel

/-- Outside, level with two vertices and with the horizontal top edges; clockwise order and a
    different starting vertex give the same answers. -/
example : classify (1 / 1000) hexagon (5, 3) = -1 ∧ classify (1 / 1000) hexagon (-1, 3) = -1 ∧
    classify (1 / 1000) hexagon.reverse (1, 1) = 1 ∧ classify (1 / 1000) (hexagon.rotate 4) (1, 1) = 1 ∧
    classify (1 / 1000) hexagon (2, 2) = -1 := by decide +kernel

/-- On-edge: a vertex, a point of a horizontal edge, a point of a slanted edge, and a point off
    the boundary but inside the band (`√(1+10⁻⁸)·2 − 2 < 10⁻³`); just outside the band is not. -/
example : classify (1 / 1000) hexagon (2, 1) = 0 ∧ classify (1 / 1000) hexagon (1 / 2, 3) = 0 ∧
    classify (1 / 1000) hexagon (3, 2) = 0 ∧ classify (1 / 1000) hexagon (2, 1 / 10000) = 0 ∧
    classify (1 / 1000) hexagon (2, 1 / 10) = 1 := by decide +kernel

/-- The `c == 0` branch is reachable only with a non-positive tolerance: the band test is then
    empty and a point of a slanted edge is found by the cross product. -/
example : classify 0 hexagon (3, 2) = 0 ∧ counted ((4, 3), (2, 1)) (3, 2) = true ∧
    cross ((4, 3), (2, 1)) (3, 2) = 0 := by decide +kernel

/-- `vertex_level_counted_once` on concrete edges, point `(1, 3)` level with the vertex `(4, 3)`:
    the hexagon's own neighbours `(4, 0)`, `(2, 1)` are both below (local maximum: two crossings,
    parity unchanged); one neighbour below and one above (pass-through): exactly one; both
    above (local minimum): none. -/
example : [(((4, 0) : Pt), ((4, 3) : Pt)), ((4, 3), (2, 1))].countP (fun e => crosses e (1, 3)) = 2 ∧
    [(((4, 0) : Pt), ((4, 3) : Pt)), ((4, 3), (5, 5))].countP (fun e => crosses e (1, 3)) = 1 ∧
    [(((4, 5) : Pt), ((4, 3) : Pt)), ((4, 3), (5, 5))].countP (fun e => crosses e (1, 3)) = 0 := by
  decide +kernel

/-- `c_zero_on_segment` / `boundary_reported_on_edge`: hypotheses are satisfiable. -/
example : OnSegment ((4, 3), (2, 1)) (3, 2) :=
  c_zero_on_segment _ _ (by decide +kernel) (by decide +kernel)

end GHEVerif.C16
