/-
  C03 — Rectangular-family candidate fields stay on the land and respect spacing.

  All theorems are about the exact-arithmetic instance (`R = id`) of the models in
  Model/Coords.lean and Model/Domains.lean — the same Lean code whose binary64 instance
  (`R = fl64`) the harness compares bit for bit with ghedesigner/coordinates.py, domains.py and
  `DesignNearSquare.__init__`.  Land: `[0, Lx] × [0, Ly]` with `Lx = length`, `Ly = width`;
  nothing is assumed about which is longer (the `length < width` branch transposes).

  `InLand Lx Ly f`  every borehole of `f` lies in `[0, Lx] × [0, Ly]`.
  `Sep d f`         boreholes at different list positions differ by at least `d` in one
                    coordinate; `Sep.spaced` turns it into: no coincident boreholes (`Nodup`) and
                    squared distance `≥ d²` for every pair.
-/
import GHEVerif.Lemmas.Domains

namespace GHEVerif.C03
open GHEVerif GHEVerif.Coords GHEVerif.Domains

/-- The conclusion "keeps every pair at least `d` apart, no coincident boreholes". -/
def Spaced (d : Rat) (f : Field) : Prop :=
  Sep d f ∧ f.Nodup ∧ f.Pairwise (fun p q => d ^ 2 ≤ (p.1 - q.1) ^ 2 + (p.2 - q.2) ^ 2)

theorem spaced_of_sep {d : Rat} {f : Field} (hd : 0 < d) (h : Sep d f) : Spaced d f :=
  ⟨h, (h.spaced hd).1, (h.spaced hd).2⟩

/-! ### the grid -/

/-- The points of `rectangle(nx, ny, sx, sy)` are exactly `(i·sx, j·sy)`, `i < nx`, `j < ny`
    (negative counts give no points, as `range` does). -/
theorem rectangle_points (nx ny : Int) (sx sy : Rat) (p : Point) :
    p ∈ rectangle id nx ny sx sy ↔ ∃ i < nx.toNat, ∃ j < ny.toNat, p = ((i : Rat) * sx, (j : Rat) * sy) :=
  mem_rectangle

/-! ### `rectangular` (DesignRectangle) -/

/-- 1a. Every candidate of `rectangular` lies on the land — `length ≥ width` and
    `length < width` alike — and the generator does not raise for positive inputs. -/
theorem rectangular_inside (Lx Ly bmin bmax : Rat) (hb : 0 < bmin) (hbm : 0 < bmax) (hLx : 0 < Lx) (hLy : 0 < Ly) :
    ∃ fs, rectangular id Lx Ly bmin bmax = .ok fs ∧ ∀ f ∈ fs, InLand Lx Ly f := by
  obtain ⟨fs, h, hg, -⟩ := rectangular_spec hb hbm hLx hLy
  exact ⟨fs, h, fun f hf => (hg f hf).1⟩

/-- 2a. Every candidate of `rectangular` keeps its boreholes at least `b_min` apart and has no
    coincident boreholes. -/
theorem rectangular_spacing (Lx Ly bmin bmax : Rat) (hb : 0 < bmin) (hbm : 0 < bmax) (hLx : 0 < Lx) (hLy : 0 < Ly) :
    ∃ fs, rectangular id Lx Ly bmin bmax = .ok fs ∧ ∀ f ∈ fs, Spaced bmin f := by
  obtain ⟨fs, h, hg, -⟩ := rectangular_spec hb hbm hLx hLy
  exact ⟨fs, h, fun f hf => spaced_of_sep hb (hg f hf).2⟩

/-- 4a. The list bisected by the rectangle search is ordered by non-decreasing borehole count. -/
theorem rectangular_counts_sorted (Lx Ly bmin bmax : Rat) (hb : 0 < bmin) (hbm : 0 < bmax) (hLx : 0 < Lx) (hLy : 0 < Ly) :
    ∃ fs, rectangular id Lx Ly bmin bmax = .ok fs ∧ (fs.map List.length).Pairwise (· ≤ ·) := by
  obtain ⟨fs, h, -, hs⟩ := rectangular_spec hb hbm hLx hLy
  exact ⟨fs, h, hs⟩

/-! ### `bi_rectangle_nested` (DesignBiRectangle; reused by the polygon-constrained design) -/

/-- 6. `bi_rectangular` re-derives the row count from the spacing `L₂ / (n₂ - 1)` it is handed
    and gets `n₂` back (exact instance; the binary64 regression is the `example` below). -/
theorem bi_rectangular_rows (L2 : Rat) (hL2 : 0 < L2) (n2 : Int) (hn2 : 2 ≤ n2) :
    biN2 id L2 (spacingOf id L2 n2) = n2 :=
  biN2_spacingOf hL2 n2

/-- The nested generator does not raise for positive inputs and returns, for every admissible
    second count `n₂`, the list `biList … n₂` (`_iter == 0` block, then `n₁ × n₂` grids). -/
theorem bi_rectangle_nested_lists (Lx Ly bmin bmaxx bmaxy : Rat) (hb : 0 < bmin) (hbx : 0 < bmaxx) (hby : 0 < bmaxy)
    (hLx : 0 < Lx) (hLy : 0 < Ly) :
    biRectangleNested id Lx Ly bmin bmaxx bmaxy =
      .ok ((pyRange (nLow id (short Lx Ly) (if Lx ≥ Ly then bmaxy else bmaxx)) (nHigh id (short Lx Ly) bmin + 1)).map
            (biList (long Lx Ly) (short Lx Ly) bmin (if Lx ≥ Ly then bmaxx else bmaxy) (trOf Lx Ly))) :=
  biRectangleNested_eq hb hbx hby hLx hLy

theorem bi_rectangle_nested_good (Lx Ly bmin bmaxx bmaxy : Rat) (hb : 0 < bmin) (hbx : 0 < bmaxx) (hby : 0 < bmaxy)
    (hLx : 0 < Lx) (hLy : 0 < Ly) :
    ∃ ls, biRectangleNested id Lx Ly bmin bmaxx bmaxy = .ok ls ∧
      ∀ l ∈ ls, ∀ f ∈ l, InLand Lx Ly f ∧ Sep bmin f := by
  obtain ⟨ls, h, hg⟩ := biRectangleNested_spec hb hbx hby hLx hLy
  exact ⟨ls, h, fun l hl => (hg l hl).1⟩

/-- 1b. Every candidate of every list of `bi_rectangle_nested` lies on the land, for
    `length ≥ width` and for `length < width`. -/
theorem bi_rectangle_nested_inside (Lx Ly bmin bmaxx bmaxy : Rat) (hb : 0 < bmin) (hbx : 0 < bmaxx) (hby : 0 < bmaxy)
    (hLx : 0 < Lx) (hLy : 0 < Ly) :
    ∃ ls, biRectangleNested id Lx Ly bmin bmaxx bmaxy = .ok ls ∧ ∀ l ∈ ls, ∀ f ∈ l, InLand Lx Ly f := by
  obtain ⟨ls, h, hg⟩ := bi_rectangle_nested_good Lx Ly bmin bmaxx bmaxy hb hbx hby hLx hLy
  exact ⟨ls, h, fun l hl f hf => (hg l hl f hf).1⟩

/-- 2b. … and keeps its boreholes at least `b_min` apart, without coincident boreholes
    (false in binary64 before the repair of finding F13, DESIGN.md §8). -/
theorem bi_rectangle_nested_spacing (Lx Ly bmin bmaxx bmaxy : Rat) (hb : 0 < bmin) (hbx : 0 < bmaxx) (hby : 0 < bmaxy)
    (hLx : 0 < Lx) (hLy : 0 < Ly) :
    ∃ ls, biRectangleNested id Lx Ly bmin bmaxx bmaxy = .ok ls ∧ ∀ l ∈ ls, ∀ f ∈ l, Spaced bmin f := by
  obtain ⟨ls, h, hg⟩ := bi_rectangle_nested_good Lx Ly bmin bmaxx bmaxy hb hbx hby hLx hLy
  exact ⟨ls, h, fun l hl f hf => spaced_of_sep hb (hg l hl f hf).2⟩

/-- 4b. Each list of `bi_rectangle_nested` (the inner bisection of the bi-rectangle search) is
    ordered by non-decreasing borehole count. -/
theorem bi_rectangle_nested_counts_sorted (Lx Ly bmin bmaxx bmaxy : Rat) (hb : 0 < bmin) (hbx : 0 < bmaxx)
    (hby : 0 < bmaxy) (hLx : 0 < Lx) (hLy : 0 < Ly) :
    ∃ ls, biRectangleNested id Lx Ly bmin bmaxx bmaxy = .ok ls ∧
      ∀ l ∈ ls, (l.map List.length).Pairwise (· ≤ ·) := by
  obtain ⟨ls, h, hg⟩ := biRectangleNested_spec hb hbx hby hLx hLy
  exact ⟨ls, h, fun l hl => (hg l hl).2⟩

/-- 4b'. The outer list of the bi-rectangle search (`Bisection2D`: the first candidate of the
    first list, then the last candidate of every list) — whenever the first-direction count range
    is non-empty every list starts with a single borehole and the last candidates have
    non-decreasing counts. -/
theorem bi_rectangle_outer_counts_sorted (Lx Ly bmin bmaxx bmaxy : Rat) (hb : 0 < bmin) (hbx : 0 < bmaxx)
    (hby : 0 < bmaxy) (hLx : 0 < Lx) (hLy : 0 < Ly)
    (hne : nLow id (long Lx Ly) (if Lx ≥ Ly then bmaxx else bmaxy) < nHigh id (long Lx Ly) bmin + 1) :
    ∃ ls, biRectangleNested id Lx Ly bmin bmaxx bmaxy = .ok ls ∧
      (∀ l ∈ ls, (l.head?).map List.length = some 1) ∧
      (ls.map (fun l => ((l.getLast?).map List.length).getD 0)).Pairwise (· ≤ ·) := by
  have t1 := two_le_nLow (long_pos hLx hLy) (pos_ite hbx hby (c := Lx ≥ Ly))
  refine ⟨_, biRectangleNested_eq hb hbx hby hLx hLy, fun l hl => ?_, outer_sorted hne⟩
  obtain ⟨n2, -, rfl⟩ := List.mem_map.mp hl
  exact biList_head n2 t1 hne

/-! ### near-square (DesignNearSquare) -/

/-- 3. With `n = ⌊length / b⌋ + 1`: the candidate list is `k × k`, `k × (k+1)` for `k = 1 … n`
    (candidates `2(k-1)` and `2(k-1)+1`, 0-based), each an exact grid of spacing `b`
    (`rectangle_points`), `(n - 1)·b ≤ length`, and `n` is the largest such count. -/
theorem near_square_shape (length b : Rat) (hb : 0 < b) (hl : 0 ≤ length) :
    ∃ fs, nearSquareDomain id length b = .ok fs ∧
      fs.length = 2 * (nearSquareN id length b).toNat ∧
      (∀ k < (nearSquareN id length b).toNat,
        fs[2 * k]? = some (rectangle id ((k : Int) + 1) ((k : Int) + 1) b b) ∧
        fs[2 * k + 1]? = some (rectangle id ((k : Int) + 1) ((k : Int) + 1 + 1) b b)) ∧
      ((nearSquareN id length b : Rat) - 1) * b ≤ length ∧ length < (nearSquareN id length b : Rat) * b := by
  obtain ⟨-, h2, h3⟩ := nearSquareN_spec hb hl
  exact ⟨_, nearSquareDomain_eq hb hl, nsList_length _ _, fun k hk => nsList_get _ _ k hk, h2, h3⟩

/-- 2c. Near-square candidates keep their boreholes `b` apart, no coincident boreholes. -/
theorem near_square_spacing (length b : Rat) (hb : 0 < b) (hl : 0 ≤ length) :
    ∃ fs, nearSquareDomain id length b = .ok fs ∧ ∀ f ∈ fs, Spaced b f :=
  ⟨_, nearSquareDomain_eq hb hl, fun f hf => spaced_of_sep hb (sep_nsList hb.le f hf)⟩

/-- 4c. The near-square list is ordered by non-decreasing borehole count. -/
theorem near_square_counts_sorted (length b : Rat) (hb : 0 < b) (hl : 0 ≤ length) :
    ∃ fs, nearSquareDomain id length b = .ok fs ∧ (fs.map List.length).Pairwise (· ≤ ·) :=
  ⟨_, nearSquareDomain_eq hb hl, nsList_sorted _ _⟩

/-! ### bi-zoned (DesignBiZoned) -/

/-- A single zoned rectangle (perimeter + interior grid) with at least one interior row and
    column: on the land spanned by its perimeter and `min(sx, sy)`-separated. -/
theorem zoned_rectangle_inside_spacing (nx ny nix nit : Int) (sx sy d : Rat) (z : Field)
    (hd : 0 < d) (hx : d ≤ sx) (hy : d ≤ sy) (h1 : 1 ≤ nix) (h2 : 1 ≤ nit)
    (h : zonedRectangle id nx ny sx sy nix nit = .ok z) :
    InLand (((nx : Rat) - 1) * sx) (((ny : Rat) - 1) * sy) z ∧ Spaced d z := by
  obtain ⟨a, b⟩ := zonedRectangle_good hd.le hx hy h1 h2 (le_refl _) (le_refl _) h
  exact ⟨a, spaced_of_sep hd b⟩

/-- 5a. Every candidate `bi_rectangle_zoned_nested` returns lies on the land, for
    `length ≥ width` **and** `length < width` (false before the repair of finding F4, DESIGN.md §8).
    (The generator raises IndexError / ValueError for empty count ranges or fewer than three
    rows; then there is no candidate.) -/
theorem zoned_inside (Lx Ly bmin bmaxx bmaxy : Rat) (hb : 0 < bmin) (hbx : 0 < bmaxx) (hby : 0 < bmaxy)
    (hLx : 0 < Lx) (hLy : 0 < Ly) (ls : List (List Field))
    (h : biRectangleZonedNested id Lx Ly bmin bmaxx bmaxy = .ok ls) :
    ∀ l ∈ ls, ∀ f ∈ l, InLand Lx Ly f :=
  fun l hl f hf => (biRectangleZonedNested_good hb hbx hby hLx hLy h l hl f hf).1

/-- 5b. … and keeps its boreholes at least `b_min` apart, without coincident boreholes. -/
theorem zoned_spacing (Lx Ly bmin bmaxx bmaxy : Rat) (hb : 0 < bmin) (hbx : 0 < bmaxx) (hby : 0 < bmaxy)
    (hLx : 0 < Lx) (hLy : 0 < Ly) (ls : List (List Field))
    (h : biRectangleZonedNested id Lx Ly bmin bmaxx bmaxy = .ok ls) :
    ∀ l ∈ ls, ∀ f ∈ l, Spaced bmin f :=
  fun l hl f hf => spaced_of_sep hb (biRectangleZonedNested_good hb hbx hby hLx hLy h l hl f hf).2

/-! ### which inputs raise -/

/-- "the side admits at least three rows at the maximum spacing": `⌈L / b_max + 1⌉ ≥ 3 ⇔ b_max < L`. -/
theorem three_rows_iff (L bmax : Rat) (hb : 0 < bmax) : 3 ≤ nLow id L bmax ↔ bmax < L := by
  show (2 : Int) < (L / bmax + 1).ceil ↔ bmax < L
  rw [Rat.lt_ceil_iff, ← one_lt_div hb, ← sub_lt_iff_lt_add]
  norm_num

/-- `rectangular` raises exactly for a zero spacing, or when the count loop runs with a count
    of 1 (`length / (n - 1)`) or on a zero-length long side (ZeroDivisionError in each case in the
    code) — none of which happens for positive inputs (`rectangular_inside`). -/
theorem rectangular_raises_iff (Lx Ly bmin bmax : Rat) :
    (∃ e, rectangular id Lx Ly bmin bmax = .error e) ↔
      (bmin = 0 ∨ bmax = 0 ∨
        (pyRange (nLow id (long Lx Ly) bmax) (nHigh id (long Lx Ly) bmin + 1) ≠ [] ∧
          ((1 : Int) ∈ pyRange (nLow id (long Lx Ly) bmax) (nHigh id (long Lx Ly) bmin + 1) ∨ long Lx Ly = 0))) := by
  rw [rectangular_def, ← or_assoc]
  split_ifs with h1 h2
  · exact ⟨fun _ => Or.inl h1, fun _ => ⟨_, rfl⟩⟩
  · exact ⟨fun _ => Or.inr h2, fun _ => ⟨_, rfl⟩⟩
  · exact ⟨fun ⟨_, he⟩ => (nomatch he), fun h => (h.elim h1 h2).elim⟩

/-- `rectangular` never raises on positive inputs — in particular on lots whose sides admit at
    least three rows at the maximum spacing; `bi_rectangle_nested` likewise (next theorem). -/
theorem rectangular_never_raises (Lx Ly bmin bmax : Rat) (hb : 0 < bmin) (hbm : 0 < bmax) (hLx : 0 < Lx) (hLy : 0 < Ly) :
    ∃ fs, rectangular id Lx Ly bmin bmax = .ok fs :=
  ⟨_, rectangular_eq hb hbm hLx hLy⟩

theorem bi_rectangle_nested_never_raises (Lx Ly bmin bmaxx bmaxy : Rat) (hb : 0 < bmin) (hbx : 0 < bmaxx)
    (hby : 0 < bmaxy) (hLx : 0 < Lx) (hLy : 0 < Ly) :
    ∃ ls, biRectangleNested id Lx Ly bmin bmaxx bmaxy = .ok ls :=
  ⟨_, biRectangleNested_eq hb hbx hby hLx hLy⟩

/-- **Exactly which positive inputs make `bi_rectangle_zoned_nested` raise.**  With
    `len₁`, `len₂` the numbers of admissible counts `⌈L/b_max+1⌉ … ⌊L/b_min+1⌋` along the long and
    the short side:
    * `len₁ + len₂ ≤ 1`: no loop pass, the result is one empty candidate list;
    * otherwise, one range empty: `IndexError` (`n_1_values[j]`);
    * both non-empty, a side with fewer than three rows at the maximum spacing: `ValueError`
      (`zoned_rectangle`: too many interior boreholes);
    * both non-empty and at least three rows along both sides: it returns. -/
theorem zoned_outcomes (Lx Ly bmin bmaxx bmaxy : Rat) (hb : 0 < bmin) (hbx : 0 < bmaxx) (hby : 0 < bmaxy)
    (hLx : 0 < Lx) (hLy : 0 < Ly) :
    let b1 := if Lx ≥ Ly then bmaxx else bmaxy
    let b2 := if Lx ≥ Ly then bmaxy else bmaxx
    let len1 := (pyRange (nLow id (long Lx Ly) b1) (nHigh id (long Lx Ly) bmin + 1)).length
    let len2 := (pyRange (nLow id (short Lx Ly) b2) (nHigh id (short Lx Ly) bmin + 1)).length
    (len1 + len2 ≤ 1 → biRectangleZonedNested id Lx Ly bmin bmaxx bmaxy = .ok [[]]) ∧
    (2 ≤ len1 + len2 → (len1 = 0 ∨ len2 = 0) →
        biRectangleZonedNested id Lx Ly bmin bmaxx bmaxy = .error .indexError) ∧
    (1 ≤ len1 → 1 ≤ len2 → (nLow id (long Lx Ly) b1 < 3 ∨ nLow id (short Lx Ly) b2 < 3) →
        biRectangleZonedNested id Lx Ly bmin bmaxx bmaxy = .error .valueError) ∧
    (1 ≤ len1 → 1 ≤ len2 → 3 ≤ nLow id (long Lx Ly) b1 → 3 ≤ nLow id (short Lx Ly) b2 →
        ∃ ls, biRectangleZonedNested id Lx Ly bmin bmaxx bmaxy = .ok ls) := by
  intro b1 b2 len1 len2
  rw [biRectangleZonedNested_eq_core]
  exact zonedCore_cases (trOf Lx Ly) hb (pos_ite hbx hby) (pos_ite hby hbx) (short_pos hLx hLy) (short_le_long Lx Ly)

/-- The other half of the bi-zoned theorems: under the property's precondition (both count
    ranges non-empty, `b_max < side` along both sides) the generator returns, and what it returns
    is on the land and `b_min`-separated. -/
theorem zoned_returns (Lx Ly bmin bmaxx bmaxy : Rat) (hb : 0 < bmin) (hbx : 0 < bmaxx) (hby : 0 < bmaxy)
    (hLx : 0 < Lx) (hLy : 0 < Ly)
    (h1 : nLow id (long Lx Ly) (if Lx ≥ Ly then bmaxx else bmaxy) ≤ nHigh id (long Lx Ly) bmin)
    (h2 : nLow id (short Lx Ly) (if Lx ≥ Ly then bmaxy else bmaxx) ≤ nHigh id (short Lx Ly) bmin)
    (h3 : (if Lx ≥ Ly then bmaxx else bmaxy) < long Lx Ly) (h4 : (if Lx ≥ Ly then bmaxy else bmaxx) < short Lx Ly) :
    ∃ ls, biRectangleZonedNested id Lx Ly bmin bmaxx bmaxy = .ok ls ∧
      ∀ l ∈ ls, ∀ f ∈ l, InLand Lx Ly f ∧ Spaced bmin f := by
  obtain ⟨-, -, -, hok⟩ := zoned_outcomes Lx Ly bmin bmaxx bmaxy hb hbx hby hLx hLy
  obtain ⟨ls, hls⟩ := hok (one_le_length_nsOf.mpr h1) (one_le_length_nsOf.mpr h2)
    ((three_rows_iff _ _ (pos_ite hbx hby)).mpr h3) ((three_rows_iff _ _ (pos_ite hby hbx)).mpr h4)
  refine ⟨ls, hls, fun l hl f hf => ?_⟩
  obtain ⟨a, b⟩ := biRectangleZonedNested_good hb hbx hby hLx hLy hls l hl f hf
  exact ⟨a, spaced_of_sep hb b⟩

/-! ### the binary64 instance -/

/-- The model's binary64 rounding has relative error at most `2⁻⁵³` per operation. -/
theorem fl64_relative_error (q : Rat) : |fl64 q - q| ≤ |q| / 9007199254740992 := fl64_relErr q

/-- `2⁻⁵¹`: bound on the accumulated relative error of a coordinate (three roundings). -/
def eps51 : Rat := 1 / 2251799813685248

theorem delta_fl64_le : delta (1 / 9007199254740992) ≤ eps51 := by
  unfold delta bump eps51; norm_num

/-- **The rectangle theorems for the binary64 instance itself.**  For positive inputs none of
    whose `floor`/`ceil` arguments is within `3·2⁻⁵³·(argument)` (`7·2⁻⁵³` for the row count) of an integer (the model's
    near-boundary flag, with a margin about 10³ times smaller), `rectangular` computed in binary64
    (`R = fl64`) does not raise, returns the list shape of the exact instance, every coordinate
    within relative `2⁻⁵¹` of the exact one; every candidate lies in
    `[0, (1+2⁻⁵¹)·length] × [0, (1+2⁻⁵¹)·width]` and keeps its boreholes
    `b_min − 2⁻⁵⁰·max(length, width)` apart. -/
theorem rectangular_binary64_robust (Lx Ly bmin bmax : Rat) (hb : 0 < bmin) (hbm : 0 < bmax) (hLx : 0 < Lx) (hLy : 0 < Ly)
    (c1 : ∀ k : Int, 3 * (1 / 9007199254740992) * (long Lx Ly / bmax + 1) < |long Lx Ly / bmax + 1 - (k : Rat)|)
    (c2 : ∀ k : Int, 3 * (1 / 9007199254740992) * (long Lx Ly / bmin + 1) < |long Lx Ly / bmin + 1 - (k : Rat)|)
    (c3 : ∀ n ∈ pyRange (nLow id (long Lx Ly) bmax) (nHigh id (long Lx Ly) bmin + 1), ∀ k : Int,
        7 * (1 / 9007199254740992) * rectN2Arg id (long Lx Ly) (short Lx Ly) n
          < |rectN2Arg id (long Lx Ly) (short Lx Ly) n - (k : Rat)|) :
    ∃ fsR fs, rectangular fl64 Lx Ly bmin bmax = .ok fsR ∧ rectangular id Lx Ly bmin bmax = .ok fs ∧
      List.Forall₂ (List.Forall₂ (NearP eps51)) fsR fs ∧
      ∀ f ∈ fsR, InLand ((1 + eps51) * Lx) ((1 + eps51) * Ly) f ∧ Sep (bmin - 2 * eps51 * max Lx Ly) f := by
  obtain ⟨fsR, fs, e1, e2, hn, hg⟩ := rectangular_robust fl64_RelErr (by norm_num) (by norm_num) hb hbm hLx hLy c1 c2 c3
  have hd := delta_fl64_le
  have hmax : 0 ≤ max Lx Ly := le_trans (le_of_lt hLx) (le_max_left _ _)
  refine ⟨fsR, fs, e1, e2, ?_, ?_⟩
  · exact List.Forall₂.imp (fun _ _ h => List.Forall₂.imp (fun _ _ h' => ⟨h'.1.mono hd, h'.2.mono hd⟩) h) hn
  · intro f hf
    obtain ⟨a, b⟩ := hg f hf
    exact ⟨a.mono (mul_le_mul_of_nonneg_right (add_le_add_right hd 1) hLx.le)
        (mul_le_mul_of_nonneg_right (add_le_add_right hd 1) hLy.le),
      b.mono (sub_le_sub_left (mul_le_mul_of_nonneg_right (mul_le_mul_of_nonneg_left hd zero_le_two) hmax) bmin)⟩

/-! ### non-vacuity and regression witnesses -/

def sizes : Py (List Field) → List Nat
  | .ok l => l.map List.length
  | .error _ => []

def sizes2 : Py (List (List Field)) → List (List Nat)
  | .ok l => l.map (·.map List.length)
  | .error _ => []

/-- rectangular on a 40 × 85 lot (transposed branch): 18 candidates up to 9 × 18. -/
example : sizes (rectangular id 40 85 5 10) = [1, 2, 3, 4, 5, 6, 7, 8, 9, 10, 20, 30, 40, 50, 72, 98, 128, 162] := by
  decide +kernel

/-- near-square, length 17, b = 5: n = 4. -/
example : sizes (nearSquareDomain id 17 5) = [1, 2, 4, 6, 9, 12, 16, 20] := by decide +kernel

/-- nested, the F13 lot 40 × 30 with b_min 2.3: 11 lists, the last one ends with 18 × 14. -/
example : (sizes2 (biRectangleNested id 40 30 (23 / 10) 10 10)).map List.length =
    [21, 22, 23, 24, 25, 26, 27, 28, 29, 30, 31] := by decide +kernel

/-- F13 regression, binary64 instance: for `L₂ = 30`, `n₂ = 14` the quotient `30 / (30 / 13)`
    rounds to `13 + 1ulp`; without `round(·, 9)` the ceiling gives 15 rows (spacing 2.143 < 2.3),
    the repaired formula gives 14. -/
example : (fl64 (fl64 (30 / spacingOf fl64 30 14) + 1)).ceil = 15 ∧ biN2 fl64 30 (spacingOf fl64 30 14) = 14 := by
  decide +kernel

/-- F4 regression: the bi-zoned candidates of the 40 × 85 lot (length < width) exist (241 of
    them), every borehole has `x ≤ 40`, `y ≤ 85`, and `x = 40` is reached (before the repair
    candidate 11 reached x = 63.75). -/
example : (sizes2 (biRectangleZonedNested id 40 85 5 12 12)).map List.length = [241] := by decide +kernel

example : (biRectangleZonedNested id 40 85 5 12 12).toOption.map
      (fun l => l.flatten.flatten.all (fun p => decide (0 ≤ p.1 ∧ p.1 ≤ 40 ∧ 0 ≤ p.2 ∧ p.2 ≤ 85))
                && l.flatten.flatten.any (fun p => decide (p.1 = 40))) = some true := by
  -- only the witness `x = 40` is evaluated (lazily: the first L shape has it); the box is `zoned_inside`
  have hany : (biRectangleZonedNested id 40 85 5 12 12).toOption.map
      (fun l => l.flatten.flatten.any (fun p => decide (p.1 = 40))) = some true := by decide +kernel
  cases h : biRectangleZonedNested id 40 85 5 12 12 with
  | error e => rw [h] at hany; cases hany
  | ok ls =>
    rw [h] at hany
    have hin := zoned_inside 40 85 5 12 12 (by norm_num) (by norm_num) (by norm_num) (by norm_num) (by norm_num) ls h
    have hall : ls.flatten.flatten.all (fun p => decide (0 ≤ p.1 ∧ p.1 ≤ 40 ∧ 0 ≤ p.2 ∧ p.2 ≤ 85)) = true := by
      rw [List.all_eq_true]
      intro p hp
      obtain ⟨f, hf, hpf⟩ := List.mem_flatten.mp hp
      obtain ⟨l, hl, hfl⟩ := List.mem_flatten.mp hf
      exact decide_eq_true (hin l hl f hfl p hpf)
    simp only [Except.toOption, Option.map_some, Option.some.injEq] at hany ⊢
    rw [hall, hany]; rfl

def errOf {α : Type} : Py α → Option PyErr
  | .ok _ => none
  | .error e => some e

/-- `zoned_outcomes`, the three raising/empty outcomes on concrete lots: 30 × 20 with
    `b_min = b_max_x = 4` (empty long-side range) raises IndexError; 23 × 9 with `b_max_y = 10.1`
    (two rows only) raises ValueError; 10 × 10 with `b_min = 6`, `b_max = 7` returns `[[]]`. -/
example : errOf (biRectangleZonedNested id 30 20 4 4 9) = some .indexError ∧
    errOf (biRectangleZonedNested id 23 9 (23 / 10) (28 / 10) (101 / 10)) = some .valueError ∧
    sizes2 (biRectangleZonedNested id 10 10 6 7 7) = [[]] ∧
    errOf (biRectangleZonedNested id 10 10 6 7 7) = none := by
  decide +kernel

/-- Non-vacuity of the hypotheses: the 40 × 85 lot with `b_min = 6`, `b_max = 10`
    (`85/10 + 1 = 9.5`, `85/6 + 1 = 15.17`, rows `40(n−1)/85 + 1` for `n = 10 … 15`). -/
example : ∃ fsR fs, rectangular fl64 40 85 6 10 = .ok fsR ∧ rectangular id 40 85 6 10 = .ok fs ∧
    List.Forall₂ (List.Forall₂ (NearP eps51)) fsR fs ∧
    ∀ f ∈ fsR, InLand ((1 + eps51) * 40) ((1 + eps51) * 85) f ∧ Sep (6 - 2 * eps51 * max 40 85) f := by
  have hl : long 40 85 = 85 := by unfold long; norm_num
  have hs : short 40 85 = 40 := by unfold short; norm_num
  have hr : pyRange (nLow id 85 10) (nHigh id 85 6 + 1) = [10, 11, 12, 13, 14, 15] := by decide +kernel
  apply rectangular_binary64_robust 40 85 6 10 (by norm_num) (by norm_num) (by norm_num) (by norm_num)
  · rw [hl]; exact clear_of_between (by norm_num) 9 (by norm_num) (by norm_num)
  · rw [hl]; exact clear_of_between (by norm_num) 15 (by norm_num) (by norm_num)
  · rw [hl, hs, hr]
    intro n hn
    simp only [List.mem_cons, List.not_mem_nil, or_false] at hn
    rcases hn with rfl | rfl | rfl | rfl | rfl | rfl <;> rw [rectN2Arg_eq]
    · exact clear_of_between (by norm_num) 5 (by norm_num) (by norm_num)
    · exact clear_of_between (by norm_num) 5 (by norm_num) (by norm_num)
    · exact clear_of_between (by norm_num) 6 (by norm_num) (by norm_num)
    · exact clear_of_between (by norm_num) 6 (by norm_num) (by norm_num)
    · exact clear_of_between (by norm_num) 7 (by norm_num) (by norm_num)
    · exact clear_of_between (by norm_num) 7 (by norm_num) (by norm_num)

end GHEVerif.C03
