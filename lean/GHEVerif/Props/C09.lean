/-
  C09 — Simulated fluid temperatures equal the documented temporal superposition.
  The literal constants of `GHE.simulate` / `BaseGHE._simulate_detailed` (`Gen.sim*`, `Gen.det*`, `Gen.cost`,
  `Gen.SEC_IN_HR`) are regenerated from the source on every check: `source_constants` and the theorems that
  unfold them break when the source changes.

  Notation of the documented formula: `qn q i` is the field load of step `i` in W (`qn q 0 = 0`),
  `G n i` stands for `g(ln((t_n − t_{i−1})·3600/t_s))`, `P = {H, twoPiK = 2πk, Tg, Rb, mdot, cp, N}`.
-/
import GHEVerif.Lemmas.Superpose

namespace GHEVerif.C09
open GHEVerif GHEVerif.Superpose Finset

/-- The constants and slice bounds the model takes from the source have the documented values:
    kW→W factor 1000, the two leading zeros of the hybrid arrays dropped, rejection = −extraction,
    8760 h per 12 months, hour `k` ends at `k`, `q_0 = 0` at `t_0 = 0`, the factor 2 of the
    outlet correction, 3600 s/h. -/
theorem source_constants :
    Gen.simKwToW = 1000 ∧ Gen.simHybridLoadDrop = 2 ∧ Gen.simHybridHourDrop = 2 ∧ Gen.simHourlySign = -1 ∧
    Gen.simMonthsPlus = 1 ∧ Gen.simMonthsPerYear = 12 ∧ Gen.simHoursPerYear = 8760 ∧
    Gen.simHoursPerYearCeil = 8760 ∧ Gen.simHoursPerYearDiv = 8760 ∧
    Gen.simArangeStart = 1 ∧ Gen.simArangeStopPlus = 1 ∧ Gen.simArangeStep = 1 ∧
    Gen.detLoadPrepend = 0 ∧ Gen.detTimePrepend = 0 ∧ Gen.detDiffLo = 1 ∧ Gen.detDiffHi = -1 ∧
    Gen.detLoopStart = 1 ∧ Gen.detLoopStopPlus = 1 ∧ Gen.detOutletFactor = 2 ∧ Gen.SEC_IN_HR = 3600 := by
  decide

/-- `eft_formula`: for every load list, time axis (long enough), `G` and parameters the run
    succeeds with one result per load step, and step `n` equals
    `T_g + Σ_{i=1..n} (q_i − q_{i−1})·G n i/(2πk·H·N) + q_n·R_b/(H·N) − q_n/(2·ṁ·c_p·N)`;
    the stored `dTb` is the sum alone. -/
theorem eft_formula (q t : List Rat) (G : Nat → Nat → Rat) (P : Params) (ht : q.length ≤ t.length) :
    ∃ eft dtb, simulateDetailed q t G P = .ok (eft, dtb) ∧ eft.length = q.length ∧ dtb.length = q.length ∧
      ∀ n, 1 ≤ n → n ≤ q.length →
        eft.getD (n - 1) 0 =
          P.Tg + (∑ i ∈ Finset.Icc 1 n, (qn q i - qn q (i - 1)) * G n i / (P.twoPiK * P.H * (P.N : Rat)))
            + qn q n * P.Rb / (P.H * (P.N : Rat)) - qn q n / (2 * P.mdot * P.cp * (P.N : Rat)) ∧
        dtb.getD (n - 1) 0 =
          ∑ i ∈ Finset.Icc 1 n, (qn q i - qn q (i - 1)) * G n i / (P.twoPiK * P.H * (P.N : Rat)) := by
  refine ⟨_, _, simulateDetailed_ok q t G P ht, by simp [loopIndices_length], by simp [loopIndices_length], ?_⟩
  intro n h1 hn
  obtain ⟨k, rfl⟩ : ∃ k, n = k + 1 := ⟨n - 1, by omega⟩
  rw [Nat.add_sub_cancel, map_loopIndices_getD hn, map_loopIndices_getD hn]
  exact ⟨formula_def _ _ _ _, depTb_def _ _ _ _⟩

/-- The error branch: a time axis shorter than the load list raises IndexError (no partial result). -/
theorem time_axis_too_short (q t : List Rat) (G : Nat → Nat → Rat) (P : Params) (ht : t.length < q.length) :
    simulateDetailed q t G P = .error .indexError :=
  simulateDetailed_error q t G P ht

/-- Evaluating the loop at a subset of the indices (what the line protocol does for hourly runs)
    gives exactly the corresponding entries of the full run. -/
theorem steps_are_independent (steps : List Nat) (q t : List Rat) (G : Nat → Nat → Rat) (P : Params)
    (r : List Rat × List Rat) (h : simulateDetailed q t G P = .ok r)
    (hs : ∀ s ∈ steps, 1 ≤ s ∧ s ≤ q.length) :
    simulateDetailedAt steps q t G P =
      .ok (steps.map (fun s => r.1.getD (s - 1) 0), steps.map (fun s => r.2.getD (s - 1) 0)) := by
  obtain ⟨ht, -, -⟩ := simulateDetailed_result h
  have hk : ∀ s ∈ steps, formula (qn q) G P s = r.1.getD (s - 1) 0 ∧ depTb (qn q) G P s = r.2.getD (s - 1) 0 := by
    intro s hs'
    obtain ⟨a, b⟩ := hs s hs'
    obtain ⟨e, d⟩ := simulateDetailed_getD h (k := s - 1) (by omega)
    rw [Nat.sub_add_cancel a] at e d
    exact ⟨e.symm, d.symm⟩
  rw [simulateDetailedAt_ok steps q t G P ht fun s hs' => (hs s hs').2,
    List.map_congr_left fun s hs' => (hk s hs').1, List.map_congr_left fun s hs' => (hk s hs').2]

/-- `zero_load`: a zero load returns exactly the ground temperature at every step, and a zero
    wall-temperature change — with no hypothesis on `G` or on the parameters. -/
theorem zero_load (q t : List Rat) (G : Nat → Nat → Rat) (P : Params) (hq : ∀ x ∈ q, x = 0)
    (ht : q.length ≤ t.length) :
    simulateDetailed q t G P = .ok (List.replicate q.length P.Tg, List.replicate q.length 0) := by
  rw [simulateDetailed_ok q t G P ht, funext fun i => (qn_cases q i).elim id (hq _)]
  simp only [formula_zero, depTb_zero, List.map_const', loopIndices_length]

/-- `linear_in_load`: scaling every load by `a` scales every departure from the ground
    temperature (and every wall-temperature change) by `a`. -/
theorem linear_in_load (a : Rat) (q t : List Rat) (G : Nat → Nat → Rat) (P : Params)
    (r r' : List Rat × List Rat)
    (h : simulateDetailed q t G P = .ok r)
    (h' : simulateDetailed (q.map (fun x => a * x)) t G P = .ok r') :
    ∀ k, k < q.length →
      r'.1.getD k 0 - P.Tg = a * (r.1.getD k 0 - P.Tg) ∧ r'.2.getD k 0 = a * r.2.getD k 0 := by
  intro k hk
  obtain ⟨e, d⟩ := simulateDetailed_getD h hk
  obtain ⟨e', d'⟩ := simulateDetailed_getD h' (k := k) (by simpa using hk)
  rw [e, d, e', d', funext (qn_map_mul q a)]
  exact ⟨formula_smul a _ G P _, depTb_smul a _ G P _⟩

/-- `additive`: the departure caused by the sum of two load sequences is the sum of the departures
    (temporal and load superposition). -/
theorem additive (q₁ q₂ t : List Rat) (G : Nat → Nat → Rat) (P : Params) (hl : q₁.length = q₂.length)
    (r₁ r₂ r : List Rat × List Rat)
    (h₁ : simulateDetailed q₁ t G P = .ok r₁) (h₂ : simulateDetailed q₂ t G P = .ok r₂)
    (h : simulateDetailed (List.zipWith (fun x y => x + y) q₁ q₂) t G P = .ok r) :
    ∀ k, k < q₁.length →
      r.1.getD k 0 - P.Tg = (r₁.1.getD k 0 - P.Tg) + (r₂.1.getD k 0 - P.Tg) ∧
      r.2.getD k 0 = r₁.2.getD k 0 + r₂.2.getD k 0 := by
  intro k hk
  obtain ⟨e₁, d₁⟩ := simulateDetailed_getD h₁ hk
  obtain ⟨e₂, d₂⟩ := simulateDetailed_getD h₂ (hl ▸ hk)
  obtain ⟨e, d⟩ := simulateDetailed_getD h (k := k) (by simpa [hl] using hk)
  rw [e, d, e₁, d₁, e₂, d₂, funext (qn_zipWith_add q₁ q₂ hl)]
  exact ⟨formula_add _ _ G P _, depTb_add _ _ G P _⟩

/-- `shift_ground_temp`: shifting the ground temperature by `d` shifts every result by `d` and
    leaves the wall-temperature changes alone. -/
theorem shift_ground_temp (d : Rat) (q t : List Rat) (G : Nat → Nat → Rat) (P : Params)
    (r r' : List Rat × List Rat)
    (h : simulateDetailed q t G P = .ok r)
    (h' : simulateDetailed q t G { P with Tg := P.Tg + d } = .ok r') :
    r'.2 = r.2 ∧ ∀ k, k < q.length → r'.1.getD k 0 = r.1.getD k 0 + d := by
  obtain ⟨_, _, h2⟩ := simulateDetailed_result h
  obtain ⟨_, _, h2'⟩ := simulateDetailed_result h'
  refine ⟨by rw [h2, h2']; rfl, ?_⟩
  intro k hk
  rw [(simulateDetailed_getD h hk).1, (simulateDetailed_getD h' hk).1, formula_shift]

/-- `sign_of_departure` (the hypothesis-carrying form; the unconditional statement "rejection
    raises, extraction lowers the temperature" is FALSE of the formula and of the code, finding
    F11, see `sign_needs_the_hypothesis`).  If at step `n` the values `G n ·` are non-increasing
    in `i` (g non-decreasing in time) and the last-step coefficient
    `G n n/(2πk·H) + R_b/H − 1/(2·ṁ·c_p)` is non-negative, then a non-negative (rejection) load
    sequence gives `EFT_n ≥ T_g` and a non-positive (extraction) one `EFT_n ≤ T_g`. -/
theorem sign_of_departure (q t : List Rat) (G : Nat → Nat → Rat) (P : Params)
    (r : List Rat × List Rat) (h : simulateDetailed q t G P = .ok r)
    (hH : 0 < P.H) (hk : 0 < P.twoPiK) (hN : 0 < P.N)
    (n : Nat) (h1 : 1 ≤ n) (hn : n ≤ q.length)
    (hmono : ∀ i, 1 ≤ i → i < n → G n (i + 1) ≤ G n i)
    (hcoef : 0 ≤ G n n / (P.twoPiK * P.H) + P.Rb / P.H - 1 / (2 * P.mdot * P.cp)) :
    ((∀ x ∈ q, 0 ≤ x) → P.Tg ≤ r.1.getD (n - 1) 0) ∧
    ((∀ x ∈ q, x ≤ 0) → r.1.getD (n - 1) 0 ≤ P.Tg) := by
  obtain ⟨m, rfl⟩ : ∃ m, n = m + 1 := ⟨n - 1, by omega⟩
  rw [Nat.add_sub_cancel, (simulateDetailed_getD h hn).1]
  have hsign := formula_sign q G P m hH hk hN (fun i a b => hmono i a (by omega)) hcoef
  constructor
  · intro hq
    simpa using hsign 1 (by simpa using hq)
  · intro hq
    simpa using hsign (-1) (fun x hx => by simpa using hq x hx)

/-- Finding F11 as a theorem: without the hypothesis on the last-step coefficient the sign
    statement fails.  Two-step witness (H = 400 m, 2πk ≈ 25, R_b = 0.1, ṁ = 0.05 kg/s,
    c_p = 4000, one borehole, `G ≡ 1`, a pure rejection load of 1000 W): `G` is constant (so
    non-increasing), every load is positive, and both results are BELOW the ground temperature. -/
theorem sign_needs_the_hypothesis :
    ∃ (q t : List Rat) (G : Nat → Nat → Rat) (P : Params) (r : List Rat × List Rat),
      simulateDetailed q t G P = .ok r ∧ 0 < P.H ∧ 0 < P.twoPiK ∧ 0 < P.N ∧ 0 < P.mdot ∧ 0 < P.cp ∧ 0 < P.Rb ∧
      (∀ x ∈ q, 0 < x) ∧ (∀ n i, G n (i + 1) ≤ G n i) ∧
      (∀ n, 1 ≤ n → n ≤ q.length → r.1.getD (n - 1) 0 < P.Tg) := by
  refine ⟨[1000, 1000], [1, 2], fun _ _ => 1,
    { H := 400, twoPiK := 25, Tg := 15, Rb := 1 / 10, mdot := 1 / 20, cp := 4000, N := 1 }, _, rfl, ?_⟩
  -- in the order of the statement: `H`, `2πk`, `N`, `ṁ`, `c_p`, `R_b` positive, every load positive
  refine ⟨by decide +kernel, by decide +kernel, by decide +kernel, by decide +kernel, by decide +kernel,
    by decide +kernel, by decide +kernel, fun _ _ => le_refl _, ?_⟩
  intro n h1 hn
  have : n = 1 ∨ n = 2 := by simp at hn; omega
  rcases this with rfl | rfl <;> decide +kernel

/-- `excess_def`: `BaseGHE.cost` (translated from the source) is `max(over, under)`. -/
theorem excess_def (maxAllow minAllow maxEft minEft : Rat) :
    Gen.cost maxAllow minAllow maxEft minEft = max (maxEft - maxAllow) (minAllow - minEft) := by
  unfold Gen.cost
  rw [ratMax_eq_max]

/-- The excess is non-positive exactly when every simulated temperature is inside the limits
    (`maxEft`/`minEft` being the extremes of the list, as `GHE.simulate` returns them). -/
theorem excess_nonpos_iff (maxAllow minAllow : Rat) (s : SimOut)
    (hmax : s.maxEft ∈ s.hpEft) (hmin : s.minEft ∈ s.hpEft)
    (hb : ∀ x ∈ s.hpEft, s.minEft ≤ x ∧ x ≤ s.maxEft) :
    costOf maxAllow minAllow s ≤ 0 ↔ ∀ x ∈ s.hpEft, minAllow ≤ x ∧ x ≤ maxAllow := by
  unfold costOf
  rw [excess_def, max_le_iff]
  constructor
  · intro ⟨h1, h2⟩ x hx
    obtain ⟨a, b⟩ := hb x hx
    exact ⟨by linarith, by linarith⟩
  · intro h
    exact ⟨by linarith [(h _ hmax).2], by linarith [(h _ hmin).1]⟩

/-- `hybrid_formula`: whenever `GHE.simulate(HYBRID)` succeeds, there is one result per stored
    load after the two leading zeros, and step `n` is the documented formula with
    `q_i = 1000·load[i+1]` (kW → W), `t_i = hour[i+1]` (hours; `·3600/t_s` inside `g(ln ·)`),
    per-borehole division by `N`; the returned pair are the extremes of the list. -/
theorem hybrid_formula (load hour : List Rat) (gln : Rat → Rat) (ts : Rat) (P : Params) (s : SimOut)
    (h : ghSimulateHybrid load hour gln ts P = .ok s) :
    let Q : Nat → Rat := fun i => if i = 0 then 0 else 1000 * load.getD (i + 1) 0
    let T : Nat → Rat := fun i => if i = 0 then 0 else hour.getD (i + 1) 0
    load.length - 2 ≤ hour.length - 2 ∧ 0 < load.length - 2 ∧
    s.hpEft.length = load.length - 2 ∧ s.dTb.length = load.length - 2 ∧
    (∀ n, 1 ≤ n → n ≤ load.length - 2 →
      s.hpEft.getD (n - 1) 0 =
        P.Tg + (∑ i ∈ Finset.Icc 1 n,
                  (Q i - Q (i - 1)) * gln ((T n - T (i - 1)) * 3600 / ts) / (P.twoPiK * P.H * (P.N : Rat)))
          + Q n * P.Rb / (P.H * (P.N : Rat)) - Q n / (2 * P.mdot * P.cp * (P.N : Rat)) ∧
      s.dTb.getD (n - 1) 0 =
        ∑ i ∈ Finset.Icc 1 n,
          (Q i - Q (i - 1)) * gln ((T n - T (i - 1)) * 3600 / ts) / (P.twoPiK * P.H * (P.N : Rat))) ∧
    s.maxEft ∈ s.hpEft ∧ s.minEft ∈ s.hpEft ∧ (∀ x ∈ s.hpEft, s.minEft ≤ x ∧ x ≤ s.maxEft) := by
  intro Q T
  -- `SimSpec Q T …` is the stated conjunction with `formula`, `depTb` written out (`formula_def`, `depTb_def`)
  exact hybrid_run h

/-- `hourly_formula`: for an 8760-hour load list and a horizon of `y ≥ 1` whole years
    `GHE.simulate(HOURLY)` succeeds with `8760·y` steps, and step `n` is the documented formula with
    `q_i = −loads[(i−1) mod 8760]` (extraction → rejection, the year repeated) and `t_i = i` hours. -/
theorem hourly_formula (loads : List Rat) (hl : loads.length = 8760) (y : Nat) (hy : 1 ≤ y) (s : Int)
    (gln : Rat → Rat) (ts : Rat) (P : Params) :
    let Q : Nat → Rat := fun i => if i = 0 then 0 else -loads.getD ((i - 1) % 8760) 0
    ∃ out, ghSimulateHourly loads s (s + 12 * y - 1) gln ts P = .ok out ∧
      out.hpEft.length = 8760 * y ∧ out.dTb.length = 8760 * y ∧
      (∀ n, 1 ≤ n → n ≤ 8760 * y →
        out.hpEft.getD (n - 1) 0 =
          P.Tg + (∑ i ∈ Finset.Icc 1 n,
                    (Q i - Q (i - 1)) * gln ((((n : Rat) - ((i - 1 : Nat) : Rat))) * 3600 / ts) / (P.twoPiK * P.H * (P.N : Rat)))
            + Q n * P.Rb / (P.H * (P.N : Rat)) - Q n / (2 * P.mdot * P.cp * (P.N : Rat)) ∧
        out.dTb.getD (n - 1) 0 =
          ∑ i ∈ Finset.Icc 1 n,
            (Q i - Q (i - 1)) * gln ((((n : Rat) - ((i - 1 : Nat) : Rat))) * 3600 / ts) / (P.twoPiK * P.H * (P.N : Rat))) ∧
      out.maxEft ∈ out.hpEft ∧ out.minEft ∈ out.hpEft ∧ (∀ x ∈ out.hpEft, out.minEft ≤ x ∧ x ≤ out.maxEft) := by
  have h := hourly_run loads y (8760 * y) (by omega) (by rw [hl, Nat.mul_comm]) s (s + 12 * y - 1) gln ts P
    (hl ▸ hourlyRep_whole_years y hy s)
  unfold HourlySpec at h
  rwa [hl] at h

/-- `hourly_repeated_formula` (the replication branch after the repair 05a458d,
    `q_dot = (q_dot * n_years)[:n_hours]`): a horizon of `12a + b` months, `0 < b ≤ 12` (so
    `n_years = a + 1`), and a load list of at most `a` whole years whose `a + 1` copies cover the
    horizon.  The run succeeds over exactly `n_hours = 730·(12a + b)` steps and satisfies
    `HourlySpec` (Lemmas/Superpose.lean): step `k` is the documented formula with
    `q_i = −loads[(i−1) mod len]`, `t_i = i` hours; `dTb` is the sum; the returned pair are the
    extremes.  The horizon need not be a whole number of copies of the list: it ends inside the
    last copy. -/
theorem hourly_repeated_formula (loads : List Rat) (a b : Nat) (hb0 : 0 < b) (hb : b ≤ 12)
    (hrep : loads.length / 8760 ≤ a) (hcover : 730 * (12 * a + b) ≤ (a + 1) * loads.length)
    (s e : Int) (hm : e - s + 1 = 12 * (a : Int) + b) (gln : Rat → Rat) (ts : Rat) (P : Params) :
    ∃ out, ghSimulateHourly loads s e gln ts P = .ok out ∧
      HourlySpec loads (730 * (12 * a + b)) gln ts P out  :=
  hourly_run loads (a + 1) (730 * (12 * a + b)) (by omega) hcover s e gln ts P
    (hourlyRep_repeated _ a b hb0 hb hrep s e hm)

/-- The inputs that raised IndexError before the repair, first family: an 8760-hour list with a
    horizon of more than 12 months that is not a whole number of years now runs over exactly
    `730·n_months` steps with the year repeated. -/
theorem hourly_partial_year_succeeds (loads : List Rat) (hl : loads.length = 8760) (a b : Nat)
    (ha : 1 ≤ a) (hb0 : 0 < b) (hb : b < 12) (s e : Int) (hm : e - s + 1 = 12 * (a : Int) + b)
    (gln : Rat → Rat) (ts : Rat) (P : Params) :
    ∃ out, ghSimulateHourly loads s e gln ts P = .ok out ∧
      HourlySpec loads (730 * (12 * a + b)) gln ts P out :=
  hourly_repeated_formula loads a b hb0 (by omega) (by rw [hl]; omega) (by rw [hl]; omega) s e hm gln ts P

/-- Second family: `k ≥ 2` whole years of loads and a horizon of `y > k` whole years now run over
    exactly `8760·y` steps with the list repeated. -/
theorem hourly_multiyear_list_succeeds (loads : List Rat) (k y : Nat) (hl : loads.length = 8760 * k) (hk : 2 ≤ k)
    (hy : k < y) (s : Int) (gln : Rat → Rat) (ts : Rat) (P : Params) :
    ∃ out, ghSimulateHourly loads s (s + 12 * y - 1) gln ts P = .ok out ∧
      HourlySpec loads (8760 * y) gln ts P out := by
  refine hourly_run loads y (8760 * y) (by omega) ?_ s _ gln ts P (hourlyRep_years _ y (by omega) s)
  rw [hl, show y * (8760 * k) = 8760 * y * k by ring]
  exact Nat.le_mul_of_pos_right _ (by omega)

/-- `hourly_never_index_error`: after the repair no horizon / list length makes the hourly method
    index past its time axis: for every load list and every pair of months the run does not raise
    IndexError. -/
theorem hourly_never_index_error (loads : List Rat) (s e : Int) (gln : Rat → Rat) (ts : Rat) (P : Params) :
    ghSimulateHourly loads s e gln ts P ≠ .error .indexError := by
  rw [ghSimulateHourly_eq Prod.mk.eta.symm, simulateDetailed_ok _ _ _ P (hourlyInputs_axis_long_enough loads s e)]
  exact finishSim_ne_indexError _

/-! ### Non-vacuity -/

/-- A concrete parameter set / `G` used by the examples (4 boreholes of 100 m, `G n i = n − i + 1`). -/
def exP : Params := ⟨100, 12, 15, 1 / 10, 1 / 2, 4000, 4⟩
def exG : Nat → Nat → Rat := fun n i => ((n + 1 - i : Nat) : Rat)

-- the success hypothesis of the `simulateDetailed` theorems holds whenever the time axis is long enough:
example (q t : List Rat) (G : Nat → Nat → Rat) (P : Params) (ht : q.length ≤ t.length) :
    ∃ r, simulateDetailed q t G P = .ok r := ⟨_, simulateDetailed_ok q t G P ht⟩
example : (match simulateDetailed [4800, -2400] [1, 2] exG exP with
           | .ok r => r.1 == [15 + 1 + 12 / 10 - 3 / 10, 15 + (2 - 3 / 2) - 6 / 10 + 15 / 100] && r.2 == [1, 1 / 2]
           | .error _ => false) = true := by decide +kernel
example : simulateDetailed [0, 0, 0] [1, 2, 3] exG exP = .ok (List.replicate 3 exP.Tg, List.replicate 3 0) :=
  zero_load [0, 0, 0] [1, 2, 3] exG exP (by simp) (by simp)
example : simulateDetailed [1, 2, 3] [1, 2] exG exP = .error .indexError :=
  time_axis_too_short _ _ _ _ (by decide)
-- sign_of_departure: its hypotheses are satisfiable (and give the conclusion on this instance)
example : exP.Tg ≤ ((loopIndices 2).map (fun i => eftStep [4800, 100] exG exP i)).getD 1 0 :=
  (sign_of_departure [4800, 100] [1, 2] exG exP _ rfl
    (by decide +kernel) (by decide +kernel) (by decide) 2 (by decide) (by decide)
    (by intro i h1 h2; have : i = 1 := by omega
        subst this; decide +kernel)
    (by decide +kernel)).1 (by intro x hx; simp at hx; rcases hx with rfl | rfl <;> decide +kernel)
example : (ghSimulateHybrid [0, 0, 3, -1] [0, 0, 5, 9] (fun x => x) 7200 exP).toOption.isSome = true := by
  decide +kernel
example : ∃ out, ghSimulateHourly (List.replicate 8760 1) 1 (1 + 12 * (2 : Nat) - 1) (fun x => x) 7200 exP = .ok out :=
  let ⟨out, h, _⟩ := hourly_formula (List.replicate 8760 1) List.length_replicate 2 (by decide) 1 (fun x => x) 7200 exP
  ⟨out, h⟩
-- the former IndexError inputs (13 months with a one-year list; 36 months with a two-year list)
example : ∃ out, ghSimulateHourly (List.replicate 8760 1) 1 13 (fun x => x) 7200 exP = .ok out ∧ out.hpEft.length = 9490 :=
  let ⟨out, h, hs⟩ := hourly_partial_year_succeeds (List.replicate 8760 1) List.length_replicate 1 1 (by decide) (by decide)
    (by decide) 1 13 (by decide) (fun x => x) 7200 exP
  ⟨out, h, hs.1⟩
example : ∃ out, ghSimulateHourly (List.replicate (8760 * 2) 1) 1 (1 + 12 * (3 : Nat) - 1) (fun x => x) 7200 exP = .ok out ∧
    out.hpEft.length = 26280 :=
  let ⟨out, h, hs⟩ := hourly_multiyear_list_succeeds (List.replicate (8760 * 2) 1) 2 3 List.length_replicate (by decide) (by decide)
    1 (fun x => x) 7200 exP
  ⟨out, h, hs.1⟩
-- hourly_repeated_formula with a horizon that is not a whole number of copies: 1000 loads, 1 month
example : ∃ out, ghSimulateHourly (List.replicate 1000 1) 1 1 (fun x => x) 7200 exP = .ok out ∧ out.hpEft.length = 730 :=
  let ⟨out, h, hs⟩ := hourly_repeated_formula (List.replicate 1000 1) 0 1 (by decide) (by decide)
    (by rw [List.length_replicate]) (by rw [List.length_replicate]; decide) 1 1 (by decide) (fun x => x) 7200 exP
  ⟨out, h, hs.1⟩
example : costOf 35 5 ⟨[20, 30], [0, 0], 30, 20⟩ ≤ 0 :=
  (excess_nonpos_iff 35 5 ⟨[20, 30], [0, 0], 30, 20⟩ (by simp) (by simp)
    (by intro x hx; simp at hx; rcases hx with rfl | rfl <;> constructor <;> decide +kernel)).2
    (by intro x hx; simp at hx; rcases hx with rfl | rfl <;> constructor <;> decide +kernel)

end GHEVerif.C09
