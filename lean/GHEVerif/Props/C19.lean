/-
  C19 — Output tables label time correctly.
  Search invariants and the month counter are in GHEVerif/Lemmas/TimeConv.lean; `time_convert_correct_general`
  is the one statement about `gheTimeConvertT` for an arbitrary table, `hiy_facts` the table facts used below.
  The month tables are `Gen.daysInYearGTC` / `Gen.daysInYearHTM`, regenerated from
  ghedesigner/output.py on every check: changing a month length there breaks
  `tables_are_the_common_year`.
-/
import GHEVerif.Lemmas.TimeConv
import GHEVerif.Gen.Report

namespace GHEVerif.C19
open GHEVerif GHEVerif.TimeConv

/-- The non-leap calendar, written here independently of the source. -/
def commonYear : List Int := [31, 28, 31, 30, 31, 30, 31, 31, 30, 31, 30, 31]

/-- Hours elapsed before month index `m` (0-based) of the common year. -/
def cum (m : Nat) : Int := ((commonYear.map (24 * ·)).take m).sum

/-- Both tables in output.py are the common-year calendar and a day has 24 hours. -/
theorem tables_are_the_common_year :
    Gen.daysInYearGTC = commonYear ∧ Gen.daysInYearHTM = commonYear ∧ Gen.HRS_IN_DAY = 24 := by
  decide

/-- Any table of positive whole-day month lengths: the label of hour `h` is a (month, day, hour) with
    `h = hours before the month + 24 (day-1) + (hour-1)`, inside the month.  (Uniqueness of the label is
    `time_convert_injective`, for the real table.) -/
theorem time_convert_correct_general (days : List Int) (hpos : ∀ d ∈ days, 0 < d) (h : Int)
    (h0 : 0 ≤ h) (hlt : h < (days.map (24 * ·)).sum) :
    ∃ m : Nat, m < days.length ∧
      gheTimeConvertT (days.map (24 * ·)) 24 h =
        ((m : Int) + 1, (h - ((days.map (24 * ·)).take m).sum) / 24 + 1,
                        (h - ((days.map (24 * ·)).take m).sum) % 24 + 1) ∧
      0 ≤ h - ((days.map (24 * ·)).take m).sum ∧
      h - ((days.map (24 * ·)).take m).sum < 24 * (days[m]?.getD 0) := by
  set T := days.map (24 * ·) with hT
  obtain ⟨_, i2, i3, i4⟩ := gtcFind_spec h T 0 0 h0 (by simpa using hlt)
  simp only [Nat.sub_zero, zero_add] at i2 i3 i4
  have hlen : T.length = days.length := by simp [hT]
  refine ⟨gtcFind h 0 0 T, by omega, ?_, by omega, ?_⟩
  · unfold gheTimeConvertT
    simp only [Int.fdiv_eq_ediv_of_nonneg _ (by norm_num : (0:Int) ≤ 24),
      Int.fmod_eq_emod_of_nonneg _ (by norm_num : (0:Int) ≤ 24)]
  · rw [List.sum_take_succ T _ (by omega)] at i4
    have : T[gtcFind h 0 0 T]'(by omega) = 24 * (days[gtcFind h 0 0 T]?.getD 0) := by
      rw [List.getElem?_eq_getElem (by omega), Option.getD_some]
      simp only [hT, List.getElem_map]
    omega

/-- `ghe_time_convert` on the real tables: for every hour of the year the label
    (month, day, hour) is in range and decodes back to the hour index. -/
theorem time_convert_correct (h : Int) (h0 : 0 ≤ h) (hlt : h < 8760) :
    ∃ m : Nat, m < 12 ∧
      gheTimeConvert h = ((m : Int) + 1, (h - cum m) / 24 + 1, (h - cum m) % 24 + 1) ∧
      1 ≤ (h - cum m) / 24 + 1 ∧ (h - cum m) / 24 + 1 ≤ commonYear[m]?.getD 0 ∧
      1 ≤ (h - cum m) % 24 + 1 ∧ (h - cum m) % 24 + 1 ≤ 24 ∧
      h = cum m + 24 * ((h - cum m) / 24 + 1 - 1) + ((h - cum m) % 24 + 1 - 1) := by
  have hpos : ∀ d ∈ commonYear, 0 < d := by decide
  obtain ⟨m, hm, heq, hl0, hl1⟩ := time_convert_correct_general commonYear hpos h h0 (by
    have : (commonYear.map (24 * ·)).sum = 8760 := by decide
    omega)
  refine ⟨m, by simpa [commonYear] using hm, ?_, ?_⟩
  · have : hoursInYearGTC = commonYear.map (24 * ·) := by decide
    unfold gheTimeConvert
    rw [this, tables_are_the_common_year.2.2]; exact heq
  · unfold cum; omega

/-- The label determines the hour: distinct hours of the year get distinct labels. -/
theorem time_convert_injective (h1 h2 : Int) (a0 : 0 ≤ h1) (a1 : h1 < 8760) (b0 : 0 ≤ h2) (b1 : h2 < 8760)
    (heq : gheTimeConvert h1 = gheTimeConvert h2) : h1 = h2 := by
  obtain ⟨m1, _, e1, _, _, _, _, r1⟩ := time_convert_correct h1 a0 a1
  obtain ⟨m2, _, e2, _, _, _, _, r2⟩ := time_convert_correct h2 b0 b1
  rw [e1, e2] at heq
  simp only [Prod.mk.injEq] at heq
  obtain ⟨hm, hd, hk⟩ := heq
  have : m1 = m2 := by omega
  subst this
  omega

/-- The table form of `time_convert_correct`: one Boolean over the 8760 hours of the year. -/
theorem time_convert_table_check :
    (List.range 8760).all (fun n =>
      let (m, d, k) := gheTimeConvert (n : Int)
      decide (1 ≤ m ∧ m ≤ 12 ∧ 1 ≤ d ∧ d ≤ commonYear[(m - 1).toNat]?.getD 0 ∧ 1 ≤ k ∧ k ≤ 24 ∧
        (n : Int) = cum (m - 1).toNat + 24 * (d - 1) + (k - 1))) = true := by
  rw [List.all_eq_true]
  intro n hn
  obtain ⟨m, hm, heq, d1, d2, -⟩ :=
    time_convert_correct (n : Int) (by omega) (by exact_mod_cast List.mem_range.mp hn)
  have hm' : ((m : Int) + 1 - 1).toNat = m := by omega
  simp only [heq, hm', decide_eq_true_eq]
  omega

/-! ### `hours_to_month` -/

/-- Hours in each month of the common year. -/
def hiy : List Int := commonYear.map (24 * ·)

/-- Hours elapsed before month index `m`, as a rational. -/
def cumR (m : Nat) : Rat := sumR (hiy.take m)

theorem hiy_facts : hoursInYearHTM = hiy ∧ sumR hiy = 8760 ∧ hiy.length = 12 ∧ (∀ t ∈ hiy, 0 < t) ∧ hiy ≠ [] :=
  ⟨by decide, by decide +kernel, by decide, by decide, by decide⟩

/-- `hours_to_month` never raises and returns
    `12·⌊h/8760⌋ + (months elapsed in the remainder)`. -/
theorem hours_to_month_closed_form (h : Rat) : hoursToMonth h = .ok (F hiy h) := by
  obtain ⟨e, _, _, hpos, hne⟩ := hiy_facts
  unfold hoursToMonth; rw [e]; exact hoursToMonthT_eq hiy hpos hne h

/-- `y` whole years, then `x` hours into month `m` (0 ≤ x ≤ month length, **both ends included**, so
    consecutive pieces agree at every month end): the result is `12 y + m + x / (hours in month m)`. -/
theorem hours_to_month_formula (y : Int) (m : Nat) (hm : m < 12) (x : Rat) (hx0 : 0 ≤ x)
    (hx1 : x ≤ ((hiy[m]?.getD 0 : Int) : Rat)) :
    hoursToMonth (8760 * (y : Rat) + cumR m + x) =
      .ok (12 * (y : Rat) + (m : Rat) + x / ((hiy[m]?.getD 0 : Int) : Rat)) := by
  obtain ⟨_, hsum, hlen, hpos, hne⟩ := hiy_facts
  have hm' : m < hiy.length := by omega
  rw [List.getElem?_eq_getElem hm', Option.getD_some] at hx1 ⊢
  rw [hours_to_month_closed_form,
    show 8760 * (y : Rat) + cumR m + x = (y : Rat) * sumR hiy + (cumR m + x) by rw [hsum]; ring,
    cumR, F_prefix hiy hpos hne y m hm' x hx0 hx1, hlen, Nat.cast_ofNat, mul_comm, add_assoc]

/-- Month ends fall on integers: `y` years plus the first `m` months is exactly `12 y + m`. -/
theorem hours_to_month_month_end_integer (y : Int) (m : Nat) (hm : m ≤ 12) :
    hoursToMonth (8760 * (y : Rat) + cumR m) = .ok (12 * (y : Rat) + (m : Rat)) := by
  obtain ⟨_, hsum, hlen, hpos, hne⟩ := hiy_facts
  rw [hours_to_month_closed_form, show 8760 * (y : Rat) + cumR m = (y : Rat) * sumR hiy + cumR m by rw [hsum]; ring, cumR,
    F_year_shift hiy hpos hne y _ (sumR_nonneg _ fun t ht => hpos t (List.mem_of_mem_take ht)) (sumR_take_le hiy hpos m),
    G_take hiy hpos m (by omega), hlen, Nat.cast_ofNat, mul_comm]

/-- Strictly increasing in the elapsed time (all rationals, hence all sub-hour resolutions). -/
theorem hours_to_month_strictMono (h1 h2 : Rat) (hlt : h1 < h2) :
    ∃ v1 v2, hoursToMonth h1 = .ok v1 ∧ hoursToMonth h2 = .ok v2 ∧ v1 < v2 := by
  obtain ⟨_, _, _, hpos, hne⟩ := hiy_facts
  exact ⟨F hiy h1, F hiy h2, hours_to_month_closed_form h1, hours_to_month_closed_form h2,
    F_strictMono hiy hpos hne h1 h2 hlt⟩

/-- Non-vacuity: hour 1000.5 lies 256.5 h into February (index 1) of year 0. -/
example : hoursToMonth (8760 * ((0 : Int) : Rat) + cumR 1 + (513 / 2 : Rat)) = .ok (0 + 1 + (513 / 2 : Rat) / 672) := by
  have h672 : hiy[1]?.getD 0 = 672 := by decide
  have := hours_to_month_formula 0 1 (by norm_num) (513 / 2) (by norm_num) (by rw [h672]; norm_num)
  rw [h672] at this
  simpa using this

/-! ### the loads table and the bore-field table -/

/-- The loop of `get_hourly_loading_data` as regenerated from output.py on this run (locals renamed
    in order of appearance): it walks `enumerate(design.ghe.hourly_extraction_ground_loads)` and
    appends `[month, day, hour, index, load]` with the label of `ghe_time_convert(index)`. -/
theorem loading_table_statements :
    Gen.loadingSourceExpr = "v1 = v0.ghe.hourly_extraction_ground_loads" ∧
    Gen.loadingLoopExpr = "for (v3, v4) in enumerate(v1)" ∧
    Gen.loadingBody = ["v5, v6, v7 = self.ghe_time_convert(v3)", "v2.append([v5, v6, v7, v3, v4])"] ∧
    Gen.loadingReturnExpr = "return v2" :=
  ⟨rfl, rfl, rfl, rfl⟩

/-- The loads table echoes the input loads, all of them, in order, each with its index. -/
theorem loading_rows_echo (loads : List Rat) :
    (loadingRows loads).map (fun r => r.2.2.2.2) = loads ∧
    (loadingRows loads).map (fun r => r.2.2.2.1) = List.range loads.length ∧
    (loadingRows loads).length = loads.length := by
  unfold loadingRows
  refine ⟨?_, ?_, by simp⟩
  · simp [List.map_map, Function.comp_def]
  · simp only [List.map_map, Function.comp_def, List.zipIdx_eq_zip_range', List.range_eq_range']
    exact List.map_snd_zip (by simp)

/-- Row `i` of the loads table carries load `i` under the calendar label of hour `i` of the common
    year: month `m+1`, day and hour in range, decoding back to `i` (for the 8760 hours the property
    quantifies over). -/
theorem loading_rows_labels (loads : List Rat) (i : Nat) (hi : i < loads.length) (h8760 : i < 8760) :
    ∃ m : Nat, m < 12 ∧
      (loadingRows loads)[i]? = some ((m : Int) + 1, ((i : Int) - cum m) / 24 + 1, ((i : Int) - cum m) % 24 + 1, i, loads[i]) ∧
      1 ≤ ((i : Int) - cum m) / 24 + 1 ∧ ((i : Int) - cum m) / 24 + 1 ≤ commonYear[m]?.getD 0 ∧
      (i : Int) = cum m + 24 * (((i : Int) - cum m) / 24 + 1 - 1) + (((i : Int) - cum m) % 24 + 1 - 1) := by
  obtain ⟨m, hm, heq, d1, d2, _, _, hdec⟩ := time_convert_correct (i : Int) (by omega) (by omega)
  refine ⟨m, hm, ?_, d1, d2, hdec⟩
  unfold loadingRows
  simp [hi, heq]

/-- The bore-field table lists exactly the selected coordinates, in order. -/
theorem bore_rows_echo (coords : List (Rat × Rat)) :
    (boreRows coords).length = coords.length ∧
    ∀ i (h : i < coords.length), (boreRows coords)[i]? = some [coords[i].1, coords[i].2] := by
  unfold boreRows
  refine ⟨by simp, fun i h => by simp [h]⟩

/-- Non-vacuity: three loads give three rows labelled 1 January, hours 1..3. -/
example : loadingRows [5, -7, 0] = [(1, 1, 1, 0, 5), (1, 1, 2, 1, -7), (1, 1, 3, 2, 0)] := by decide +kernel

end GHEVerif.C19
