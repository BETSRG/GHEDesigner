/-
  C15 — Equivalent single U-tube preserves the exchanger's bulk properties.

  All statements are about the ℝ instantiation (`realOps`: π, √, ln) of the definitions the
  driver runs at `Float` against the real code (Model/EquivTube.lean).  Constants (2 tubes, the
  brackets `/100 … ·10` and `[0.01, 7]`, spacing `/10`, `/3`) are `Gen` definitions regenerated from
  the source.  Third-party parts are universally quantified parameters: the convection correlation
  `hConv`, Brent's method `brent` (with its contract `BrentSpec` as a hypothesis where a theorem
  needs it), the multipole resistance `Rb`.  The flags say what the source does with the solver's
  result and with pygfunction's delta-circuit; theorems that do not mention a flag hold for every
  flag value (hence for the code as it is, `codeFlags`, and for repaired variants).

  The full statement of the property ("… and reproduces R_b within 0.1 %") is FALSE of the code:
  `rb_unrefreshed` shows why (the grout solve cannot change R_b'), `rb_claim_fails_witness` is the
  negation on a concrete witness (under `Gen.groutObjectiveRefreshes = false`, true of the generated
  constant by `rfl`), `rb_matched_partial` is the provable part (it needs `groutRefresh`).
  Likewise "reproduces R_conv + R_pipe" holds exactly when the bracket contains the root
  (`rfp_matched`); `rfp_unmatchable` (finding F10) and `rfp_lower_clamp_keeps_upper` (finding F22:
  the discarded result leaves the pipe at the wrong end of the bracket) are the other two branches.
-/
import GHEVerif.Lemmas.EquivTube

namespace GHEVerif.C15
open GHEVerif GHEVerif.EquivTube

/-! ### 1. Volumes -/

/-- The `n = 2` equivalent tubes hold the fluid volume handed to the conversion:
    `n·π·r_pi'² = V_fluid` (for every borehole radius and every other input). -/
theorem fluid_volume_preserved (rb : ℝ) (v : Vols ℝ) (h : 0 ≤ v.volFluid) :
    (Gen.eqTubeN : ℝ) * Real.pi * (equivGeometry realOps rb v).rIn ^ 2 = v.volFluid := by
  rw [geom_rIn]
  exact nEqPi_mul_sq_sqrt h

/-- … and the pipe-wall volume: `n·π·(r_po'² − r_pi'²) = V_pipe`. -/
theorem wall_volume_preserved (rb : ℝ) (v : Vols ℝ) (hf : 0 ≤ v.volFluid) (hp : 0 ≤ v.volPipe) :
    (Gen.eqTubeN : ℝ) * Real.pi * ((equivGeometry realOps rb v).rOut ^ 2 - (equivGeometry realOps rb v).rIn ^ 2)
      = v.volPipe :=
  (geom_volumes rb v rfl rfl hf hp).2

/-- End to end for a double (any multiple) U-tube: the equivalent tubes have the fluid and wall
    cross-sections of the `nPipes·2` original tubes. -/
theorem double_u_volumes_preserved (nPipes : Nat) (rIn rOut hF kP rb : ℝ) (h0 : 0 ≤ rIn) (h1 : rIn ≤ rOut) :
    let g := equivGeometry realOps rb (uTubeVolumes realOps nPipes rIn rOut hF kP)
    (Gen.eqTubeN : ℝ) * Real.pi * g.rIn ^ 2 = ((nPipes * Gen.tubesPerU : Nat) : ℝ) * Real.pi * rIn ^ 2 ∧
    (Gen.eqTubeN : ℝ) * Real.pi * (g.rOut ^ 2 - g.rIn ^ 2)
      = ((nPipes * Gen.tubesPerU : Nat) : ℝ) * Real.pi * (rOut ^ 2 - rIn ^ 2) := by
  obtain ⟨hvf, hvp⟩ := uTubeVolumes_real nPipes rIn rOut hF kP
  exact geom_volumes rb _ hvf hvp (by positivity) (mul_nonneg (by positivity) (sq_sub_sq_nonneg h0 h1))

/-- End to end for a coaxial exchanger (inner pipe `r_ii < r_io`, annulus up to `r_oi`, outer pipe to
    `r_oo`): fluid = inner bore + annulus, wall = the two pipe walls. -/
theorem coaxial_volumes_preserved (rii rio roi roo hFa kO rb : ℝ) (h0 : 0 ≤ rii) (h1 : rii ≤ rio) (h2 : rio ≤ roi)
    (h3 : roi ≤ roo) :
    let g := equivGeometry realOps rb (concentricTubeVolumes realOps rii rio roi roo hFa kO)
    (Gen.eqTubeN : ℝ) * Real.pi * g.rIn ^ 2 = Real.pi * rii ^ 2 + Real.pi * (roi ^ 2 - rio ^ 2) ∧
    (Gen.eqTubeN : ℝ) * Real.pi * (g.rOut ^ 2 - g.rIn ^ 2)
      = Real.pi * (rio ^ 2 - rii ^ 2) + Real.pi * (roo ^ 2 - roi ^ 2) := by
  obtain ⟨hvf, hvp⟩ := concentricTubeVolumes_real rii rio roi roo hFa kO
  have hpi := Real.pi_pos.le
  exact geom_volumes rb _ hvf hvp
    (add_nonneg (mul_nonneg hpi (sq_nonneg _)) (mul_nonneg hpi (sq_sub_sq_nonneg (h0.trans h1) h2)))
    (add_nonneg (mul_nonneg hpi (sq_sub_sq_nonneg h0 h1)) (mul_nonneg hpi (sq_sub_sq_nonneg ((h0.trans h1).trans h2) h3)))

/-- Non-vacuity: the repository's double U-tube (4 tubes, r_in 17.02 mm) gives `2π r'² = 4π r²`. -/
example : (Gen.eqTubeN : ℝ) * Real.pi *
    (equivGeometry realOps 0.07 (uTubeVolumes realOps 2 0.01702 0.02108 1292 0.4)).rIn ^ 2
      = ((2 * Gen.tubesPerU : Nat) : ℝ) * Real.pi * (0.01702 : ℝ) ^ 2 :=
  (double_u_volumes_preserved 2 0.01702 0.02108 1292 0.4 0.07 (by norm_num) (by norm_num)).1

/-! ### 2. The borehole-enlargement rule -/

/-- Whatever the original borehole radius, the two equivalent tubes lie inside the (possibly
    enlarged) borehole copy (`shank + r_po' ≤ r_b'`), do not overlap (`r_po' < shank`, i.e. centre
    distance `2·shank > 2 r_po'`), the shank spacing is positive and the borehole never shrinks. -/
theorem enlarged_fits (rb : ℝ) (v : Vols ℝ) (h : 0 < v.volFluid + v.volPipe) :
    let g := equivGeometry realOps rb v
    0 < g.s ∧ g.shank + g.rOut ≤ g.rB ∧ g.rOut < g.shank ∧ rb ≤ g.rB := by
  apply geom_fits
  rw [geom_rOut]
  exact Real.sqrt_pos.mpr (div_pos h nEqPi_pos)

/-- The rule in closed form: if `2 r_b − 4 r_po' ≤ 0` the copy gets `r_b' = 1.2·(4 r_po' − r_b)`,
    otherwise it keeps `r_b`; the tubes sit at `±(spacing/6 + r_po')`. -/
theorem enlargement_rule (rb : ℝ) (v : Vols ℝ) :
    let g := equivGeometry realOps rb v
    (rb * 2 - 2 * g.rOut * 2 ≤ 0 →
        g.rB = (4 * g.rOut - rb) * (6 / 5) ∧ g.spacing = (4 * g.rOut - rb) / 5 ∧ g.enlarged = true) ∧
    (0 < rb * 2 - 2 * g.rOut * 2 → g.rB = rb ∧ g.spacing = rb * 2 - 4 * g.rOut ∧ g.enlarged = false) ∧
    g.s = g.spacing / 3 ∧ g.shank = g.spacing / 6 + g.rOut :=
  geom_closed rb v

/-- Non-vacuity of both branches of the rule (`r_po' = 1`: volumes `2π`). -/
example : (equivGeometry realOps 1 ⟨Real.pi, Real.pi, 1, 1⟩).enlarged = true ∧
    (equivGeometry realOps 3 ⟨Real.pi, Real.pi, 1, 1⟩).enlarged = false := by
  have hr : ∀ rb : ℝ, (equivGeometry realOps rb ⟨Real.pi, Real.pi, 1, 1⟩).rOut = 1 := by
    intro rb
    rw [geom_rOut, nEq_two]
    have : (Real.pi + Real.pi) / (2 * Real.pi) = 1 := by
      field_simp; ring
    simp [this]
  constructor
  · exact ((enlargement_rule 1 _).1 (by rw [hr]; norm_num)).2.2
  · exact ((enlargement_rule 3 _).2.1 (by rw [hr]; norm_num)).2.2

/-! ### 3. `R_fp(k)` and the pipe-conductivity solve -/

/-- `R_fp(k) = R_f + ln(r_o/r_i)/(2πk)` is strictly decreasing in the conductivity. -/
theorem rfp_monotone (rF rIn rOut k1 k2 : ℝ) (h0 : 0 < rIn) (h1 : rIn < rOut) (hk1 : 0 < k1) (hk : k1 < k2) :
    rF + pipeR realOps rIn rOut k2 < rF + pipeR realOps rIn rOut k1 :=
  add_lt_add_right (pipeR_strictAnti h0 h1 hk1 hk) _

/-- `solve_root` never falls through: the value it returns is Brent's, the lower or the upper bound
    (the initial guess `x` is never returned), and which one is decided by the end signs alone. -/
theorem solve_root_cases (np : Bool) (brent : (ℝ → ℝ) → ℝ → ℝ → Py (ℝ × ℝ)) (x : ℝ) (f : ℝ → ℝ) (lo hi : ℝ)
    (s : Solve ℝ) (h : solveRoot realOps np brent x f (some lo) (some hi) = .ok s) :
    (s.branch = .brent ∧ f lo * f hi < 0 ∧ brent f lo hi = .ok (s.result, s.last)) ∨
    (s.branch = .lower ∧ f lo < 0 ∧ f hi < 0 ∧ s.result = lo ∧ s.last = hi) ∨
    (s.branch = .upper ∧ 0 < f lo ∧ 0 < f hi ∧ s.result = hi ∧ s.last = hi) := by
  rw [solveRoot_eq] at h
  split_ifs at h with c0 c1 c2
  · injection h with h; subst h
    exact Or.inr (Or.inl ⟨rfl, c1.1, c1.2, rfl, rfl⟩)
  · injection h with h; subst h
    exact Or.inr (Or.inr ⟨rfl, c2.1, c2.2, rfl, rfl⟩)
  · obtain ⟨r, l, hb, rfl⟩ := brentOutcome_ok _ _ h
    refine Or.inl ⟨rfl, ?_, hb⟩
    rw [not_or] at c0
    rcases lt_or_gt_of_ne c0.1 with a | a
    · exact mul_neg_of_neg_of_pos a ((lt_or_gt_of_ne c0.2).resolve_left fun b => c1 ⟨a, b⟩)
    · exact mul_neg_of_pos_of_neg a ((lt_or_gt_of_ne c0.2).resolve_right fun b => c2 ⟨a, b⟩)

/-- The error branch, stated: an objective value of exactly 0 at a bracket end makes `solve_root`
    raise (ValueError through NaN for numpy scalars, ZeroDivisionError for Python floats). -/
theorem solve_root_zero_raises (np : Bool) (brent : (ℝ → ℝ) → ℝ → ℝ → Py (ℝ × ℝ)) (x : ℝ) (f : ℝ → ℝ) (lo hi : ℝ)
    (h : f lo = 0 ∨ f hi = 0) :
    solveRoot realOps np brent x f (some lo) (some hi) = .error (if np then .valueError else .zeroDiv) :=
  (solveRoot_eq np brent x f lo hi).trans (if_pos h)

/-- **R_fp is matched when the bracket contains the root.**  If `R_fp(k_lo) > target > R_fp(k_hi)`
    on the bracket `[k_p'/100, 10 k_p']` and Brent's method honours its contract with tolerance `δ`
    (smaller than the conductivity it stops at), then the conversion succeeds through Brent's
    branch and the `R_fp` attribute of the equivalent tube is within `R_p(k)·δ/(k−δ)` of
    `R_conv + R_pipe`, `k = out.2` being the conductivity of the objective's last evaluation (left in the
    pipe when `pipeResultUsed = false`; otherwise the pipe gets `out.1`).  Holds for every flag value. -/
theorem rfp_matched (fl : Flags) (brent : (ℝ → ℝ) → ℝ → ℝ → Py (ℝ × ℝ)) (hConv : ℝ → ℝ) (rb kg0 δ : ℝ) (v : Vols ℝ)
    (hf : 0 < v.volFluid) (hp : 0 < v.volPipe)
    (hlo : v.resistConv + v.resistPipe < eqRfp hConv rb v (kpLo rb v))
    (hhi : eqRfp hConv rb v (kpHi rb v) < v.resistConv + v.resistPipe)
    (out : ℝ × ℝ)
    (hb : brent (fun k => eqRfp hConv rb v k - (v.resistConv + v.resistPipe)) (kpLo rb v) (kpHi rb v) = .ok out)
    (hspec : BrentSpec (fun k => eqRfp hConv rb v k - (v.resistConv + v.resistPipe)) (kpLo rb v) (kpHi rb v) δ out)
    (hδ : δ < out.2) :
    ∃ t sol, equivalentSingleUTube realOps fl brent hConv rb kg0 v = .ok (t, sol) ∧ sol.branch = .brent ∧
      t.kPipe = (if fl.pipeResultUsed then out.1 else out.2) ∧
      |t.rFp - (v.resistConv + v.resistPipe)| ≤
        pipeR realOps t.geom.rIn t.geom.rOut out.2 * (δ / (out.2 - δ)) := by
  refine ⟨pipeTube realOps fl hConv rb kg0 v ⟨out.1, out.2, .brent⟩, ⟨out.1, out.2, .brent⟩, ?_, rfl, rfl, ?_⟩
  · rw [equivalentSingleUTube_eq, solveRoot_brent (f := fun k => eqRfp hConv rb v k - (v.resistConv + v.resistPipe))
      (mul_neg_of_pos_of_neg (sub_pos.mpr hlo) (sub_neg.mpr hhi)), hb]
    rfl
  · obtain ⟨r, _, _, hr0, _, hl⟩ := hspec
    rw [pipeTube_rFp, ← sub_eq_zero.mp hr0]
    unfold eqRfp
    rw [add_sub_add_left_eq_sub]
    exact pipeR_close (geom_rIn_pos rb v hf) (geom_rIn_lt_rOut rb v hf.le hp) hδ hl

/-- **Finding F10, as a theorem.**  When the convective resistance of the equivalent tube alone
    reaches the target (`R_f' ≥ R_conv + R_pipe`: low-flow coaxial cases), no positive pipe
    conductivity matches, the objective is positive on the whole bracket, `solve_root` takes the
    `upper` branch without calling Brent, and the pipe is left at `10·k_p'` with
    `R_fp' > R_conv + R_pipe`. -/
theorem rfp_unmatchable (fl : Flags) (brent : (ℝ → ℝ) → ℝ → ℝ → Py (ℝ × ℝ)) (hConv : ℝ → ℝ) (rb kg0 : ℝ) (v : Vols ℝ)
    (hf : 0 < v.volFluid) (hp : 0 < v.volPipe) (hr : 0 < v.resistPipe)
    (h : v.resistConv + v.resistPipe ≤ eqRf hConv rb v) :
    (∀ k, 0 < k → v.resistConv + v.resistPipe < eqRfp hConv rb v k) ∧
    ∃ t sol, equivalentSingleUTube realOps fl brent hConv rb kg0 v = .ok (t, sol) ∧ sol.branch = .upper ∧
      t.kPipe = kpHi rb v ∧ t.rFp = eqRfp hConv rb v (kpHi rb v) ∧ v.resistConv + v.resistPipe < t.rFp := by
  have hk0 := geom_kPipe0_pos rb v hf hp hr
  have key : ∀ k, 0 < k → v.resistConv + v.resistPipe < eqRfp hConv rb v k := fun k hk =>
    h.trans_lt (eqRf_lt_eqRfp hConv rb v hf hp hk)
  refine ⟨key, pipeTube realOps fl hConv rb kg0 v ⟨kpHi rb v, kpHi rb v, .upper⟩, ⟨kpHi rb v, kpHi rb v, .upper⟩, ?_, rfl, ?_, rfl, ?_⟩
  · have a := sub_pos.mpr (key _ (kpLo_pos rb v hk0))
    have b := sub_pos.mpr (key _ (kpHi_pos rb v hk0))
    rw [equivalentSingleUTube_eq, solveRoot_eq, if_neg (not_or.mpr ⟨a.ne', b.ne'⟩), if_neg fun c => a.not_gt c.1,
      if_pos ⟨a, b⟩]
    rfl
  · rw [pipeTube_kPipe]; simp
  · rw [pipeTube_rFp]; exact key _ (kpHi_pos rb v hk0)

/-- **Finding F22, as a theorem.**  When the root lies below the bracket (`R_fp(k_lo) < target`:
    laminar double U-tubes, whose `resist_conv` is large), `solve_root` returns the LOWER bound —
    but the code discards that value (`pipeResultUsed = false`, read from the source) and the pipe
    keeps the conductivity of the objective's last evaluation, the UPPER bound: of all points of the
    bracket the one whose `R_fp` is farthest from the target. -/
theorem rfp_lower_clamp_keeps_upper (fl : Flags) (hfl : fl.pipeResultUsed = false)
    (brent : (ℝ → ℝ) → ℝ → ℝ → Py (ℝ × ℝ)) (hConv : ℝ → ℝ) (rb kg0 : ℝ) (v : Vols ℝ)
    (hf : 0 < v.volFluid) (hp : 0 < v.volPipe) (hr : 0 < v.resistPipe)
    (h : eqRfp hConv rb v (kpLo rb v) < v.resistConv + v.resistPipe) :
    ∃ t sol, equivalentSingleUTube realOps fl brent hConv rb kg0 v = .ok (t, sol) ∧ sol.branch = .lower ∧
      sol.result = kpLo rb v ∧ t.kPipe = kpHi rb v ∧ t.rFp = eqRfp hConv rb v (kpHi rb v) ∧
      (∀ k, kpLo rb v ≤ k → k < kpHi rb v →
        |eqRfp hConv rb v k - (v.resistConv + v.resistPipe)| < |t.rFp - (v.resistConv + v.resistPipe)|) := by
  have hk0 := geom_kPipe0_pos rb v hf hp hr
  have hhi := eqRfp_strictAnti hConv rb v hf hp (kpLo_pos rb v hk0) (kpLo_lt_kpHi rb v hk0)
  refine ⟨pipeTube realOps fl hConv rb kg0 v ⟨kpLo rb v, kpHi rb v, .lower⟩, ⟨kpLo rb v, kpHi rb v, .lower⟩, ?_, rfl, rfl, ?_, rfl, ?_⟩
  · have a := sub_neg.mpr h
    have b := sub_neg.mpr (hhi.trans h)
    rw [equivalentSingleUTube_eq, solveRoot_eq, if_neg (not_or.mpr ⟨a.ne, b.ne⟩), if_pos ⟨a, b⟩]
    rfl
  · rw [pipeTube_kPipe]; simp [hfl]
  · intro k hk1 hk2
    rw [pipeTube_rFp]
    have a1 := eqRfp_strictAnti hConv rb v hf hp ((kpLo_pos rb v hk0).trans_le hk1) hk2
    have a2 : eqRfp hConv rb v k ≤ eqRfp hConv rb v (kpLo rb v) := by
      rcases eq_or_lt_of_le hk1 with e | e
      · rw [e]
      · exact (eqRfp_strictAnti hConv rb v hf hp (kpLo_pos rb v hk0) e).le
    rw [abs_of_neg (sub_neg.mpr (a2.trans_lt h)), abs_of_neg (sub_neg.mpr ((a1.trans_le a2).trans h))]
    exact neg_lt_neg (sub_lt_sub_right a1 _)

/-- The flag used by `rfp_lower_clamp_keeps_upper` is the one read from the source. -/
example : codeFlags.pipeResultUsed = Gen.pipeSolveResultUsed := rfl

/-! ### 4. The grout-conductivity solve and `R_b` -/

/-- **Finding F9, as a theorem.**  If the grout objective does not refresh the delta-circuit
    (`groutRefresh = false`, read from the source), then for EVERY multipole function `Rb`, every
    target, every tube and every root finder: Brent's method is never called, the grout
    conductivity is clamped to an end of `[0.01, 7]`, and the effective borehole resistance of the
    result is exactly the preliminary tube's — whatever the original's `R_b` is. -/
theorem rb_unrefreshed (fl : Flags) (hfl : fl.groutRefresh = false) (brent : (ℝ → ℝ) → ℝ → ℝ → Py (ℝ × ℝ))
    (Rb : ℝ → ℝ → ℝ) (T : ℝ) (t t' : Tube ℝ) (sol : Solve ℝ)
    (h : matchEffectiveBoreholeResistance realOps fl brent Rb T t = .ok (t', sol)) :
    t'.rb Rb = t.rb Rb ∧ sol.branch ≠ .brent ∧ t'.kGrout = kgHi ∨
    t'.rb Rb = t.rb Rb ∧ sol.branch ≠ .brent ∧ T < t.rb Rb ∧ t'.kGrout = (if fl.groutResultUsed then kgLo else kgHi) := by
  rw [matchRb_norefresh fl hfl] at h
  split_ifs at h with a b
  · obtain ⟨rfl, rfl⟩ := Prod.mk.inj (Except.ok.inj h)
    exact Or.inr ⟨groutTube_rb_norefresh fl hfl Rb t _, by decide, sub_neg.mp b, groutTube_kGrout ..⟩
  · obtain ⟨rfl, rfl⟩ := Prod.mk.inj (Except.ok.inj h)
    exact Or.inl ⟨groutTube_rb_norefresh fl hfl Rb t _, by decide, ite_self _⟩

/-- The flag used by `rb_unrefreshed` is the one read from the source. -/
example : codeFlags.groutRefresh = Gen.groutObjectiveRefreshes := rfl

/-- Negation of the property's `R_b` clause on a concrete witness: with the flags of the code, a
    multipole function `Rb(k_g, R_fp) = R_fp + 1/k_g`, a preliminary tube with `R_b' = 1.1` and an
    original with `R_b = 2`, the conversion succeeds and returns a tube whose `R_b'` is still 1.1,
    45 % off — although `k_g = 10/19 ∈ [0.01, 7]` would match exactly.  The hypothesis is the
    structural fact the translator reads off the source (`rfl` on the unchanged tree; kept as
    a hypothesis so that the file still builds once the objective is repaired). -/
theorem rb_claim_fails_witness (hcode : Gen.groutObjectiveRefreshes = false) :
    ∃ (Rb : ℝ → ℝ → ℝ) (T : ℝ) (t t' : Tube ℝ) (sol : Solve ℝ),
      (∀ brent, matchEffectiveBoreholeResistance realOps codeFlags brent Rb T t = .ok (t', sol)) ∧
      ¬ (|t'.rb Rb - T| ≤ 0.001 * T) ∧ (kgLo ≤ 10 / 19 ∧ (10 : ℝ) / 19 ≤ kgHi ∧ Rb (10 / 19) t.rFp = T) := by
  let g : Geom ℝ := { rIn := 1, rOut := 2, kPipe0 := 1, rB := 5, spacing := 1, s := 1, shank := 1, enlarged := false }
  let t : Tube ℝ := { geom := g, rF := 0.05, kPipe := 1, rFp := 0.1, kGrout := 1, circKg := 1, circRfp := 0.1 }
  let Rb : ℝ → ℝ → ℝ := fun kg rfp => rfp + 1 / kg
  have hfl : codeFlags.groutRefresh = false := hcode
  have hT : (2 : ℝ) - t.rb Rb = 0.9 := by simp only [Tube.rb, t, Rb]; norm_num
  refine ⟨Rb, 2, t, groutTube codeFlags t ⟨kgHi, kgHi, .upper⟩, ⟨kgHi, kgHi, .upper⟩, ?_, ?_, ?_⟩
  · intro brent
    rw [matchRb_norefresh codeFlags hfl, hT]
    norm_num
  · rw [groutTube_rb_norefresh codeFlags hfl]
    simp only [Tube.rb, t, Rb]
    rw [abs_of_neg (by norm_num)]; norm_num
  · refine ⟨by rw [kgLo_eq]; norm_num, by rw [kgHi_eq]; norm_num, ?_⟩
    simp only [Rb, t]; norm_num

/-- **The provable part of the `R_b` clause** (`…_partial`: it needs the objective to refresh the
    circuit, which the code does not do).  If the objective refreshes (`groutRefresh = true`), the
    multipole resistance `k_g ↦ Rb(k_g, R_fp')` is `c`-Lipschitz, `R_b − Rb(k_g)` changes sign on
    `[0.01, 7]` and Brent's method honours its contract with tolerance `δ`, then the result's
    effective borehole resistance is within `c·δ` of the original's. -/
theorem rb_matched_partial (fl : Flags) (hfl : fl.groutRefresh = true) (brent : (ℝ → ℝ) → ℝ → ℝ → Py (ℝ × ℝ))
    (Rb : ℝ → ℝ → ℝ) (T c δ : ℝ) (t : Tube ℝ)
    (hsign : (T - Rb kgLo t.rFp) * (T - Rb kgHi t.rFp) < 0)
    (hlip : ∀ a b, |Rb a t.rFp - Rb b t.rFp| ≤ c * |a - b|) (hc : 0 ≤ c)
    (out : ℝ × ℝ) (hb : brent (groutObjective fl Rb T t) kgLo kgHi = .ok out)
    (hspec : BrentSpec (groutObjective fl Rb T t) kgLo kgHi δ out) :
    ∃ t' sol, matchEffectiveBoreholeResistance realOps fl brent Rb T t = .ok (t', sol) ∧ sol.branch = .brent ∧
      t'.kGrout = (if fl.groutResultUsed then out.1 else out.2) ∧ |t'.rb Rb - T| ≤ c * δ := by
  refine ⟨groutTube fl t ⟨out.1, out.2, .brent⟩, ⟨out.1, out.2, .brent⟩, ?_, rfl, rfl, ?_⟩
  · rw [matchRb_eq, solveRoot_brent (by rwa [groutObjective_refresh fl hfl, groutObjective_refresh fl hfl]), hb]
    rfl
  · obtain ⟨r, _, _, hr0, _, hl⟩ := hspec
    rw [groutObjective_refresh fl hfl] at hr0
    rw [groutTube_rb_refresh fl hfl, sub_eq_zero.mp hr0]
    calc |Rb out.2 t.rFp - Rb r t.rFp| ≤ c * |out.2 - r| := hlip out.2 r
      _ ≤ c * δ := mul_le_mul_of_nonneg_left hl hc

/-- Non-vacuity of `rb_matched_partial`: the affine multipole stand-in `Rb(k_g, R) = R + (7 − k_g)/10`
    (1/10-Lipschitz, decreasing in `k_g`), target 0.5 with `R_fp' = 0.1`: root `k_g = 3`, an exact
    root finder (`δ = 0`), flags = the code's with `groutRefresh` switched on. -/
example : ∃ t' sol, matchEffectiveBoreholeResistance realOps ⟨true, false, false, true, true⟩
      (fun _ _ _ => .ok (3, 3)) (fun kg R => R + (7 - kg) / 10) 0.5
      ⟨⟨1, 2, 1, 5, 1, 1, 1, false⟩, 0.05, 1, 0.1, 1, 1, 0.1⟩ = .ok (t', sol) ∧ sol.branch = .brent ∧
      t'.kGrout = 3 ∧ |t'.rb (fun kg R => R + (7 - kg) / 10) - 0.5| ≤ (1 / 10) * 0 :=
  rb_matched_partial ⟨true, false, false, true, true⟩ rfl (fun _ _ _ => .ok (3, 3))
    (fun kg R => R + (7 - kg) / 10) 0.5 (1 / 10) 0 ⟨⟨1, 2, 1, 5, 1, 1, 1, false⟩, 0.05, 1, 0.1, 1, 1, 0.1⟩
    (by rw [kgLo_eq, kgHi_eq]; norm_num)
    (by intro a b; rw [show (0.1 : ℝ) + (7 - a) / 10 - (0.1 + (7 - b) / 10) = -(1 / 10) * (a - b) by ring, abs_mul]; norm_num)
    (by norm_num) (3, 3) rfl
    ⟨3, by rw [kgLo_eq]; norm_num, by rw [kgHi_eq]; norm_num,
      by rw [groutObjective_refresh _ rfl]; norm_num, by norm_num, by norm_num⟩

/-! ### 5. Single U-tube -/

/-- A single U-tube converts to itself: no solver is run, nothing changes, nothing can raise. -/
theorem single_is_fixed_point (fl : Flags) (brentP brentG : (ℝ → ℝ) → ℝ → ℝ → Py (ℝ × ℝ)) (hConv : ℝ → ℝ)
    (Rb : ℝ → ℝ → ℝ) (t : Tube ℝ) :
    toSingle realOps fl brentP brentG hConv Rb (.single t) = .ok t := rfl

/-- … and when the grout objective does not refresh, a successful `to_single` of a double-U / coaxial
    exchanger agrees with the tube the pipe solve alone returns in `R_b'`, `R_fp`, `pipe.k` and the
    geometry: the grout solve changes none of them. -/
theorem to_single_rb_is_preliminary (fl : Flags) (hfl : fl.groutRefresh = false)
    (brentP brentG : (ℝ → ℝ) → ℝ → ℝ → Py (ℝ × ℝ)) (hConv : ℝ → ℝ) (Rb : ℝ → ℝ → ℝ)
    (v : Vols ℝ) (rb kg0 T : ℝ) (t' : Tube ℝ)
    (h : toSingle realOps fl brentP brentG hConv Rb (.multi v rb kg0 T) = .ok t') :
    ∃ t sol, equivalentSingleUTube realOps fl brentP hConv rb kg0 v = .ok (t, sol) ∧ t'.rb Rb = t.rb Rb ∧
      t'.rFp = t.rFp ∧ t'.kPipe = t.kPipe ∧ t'.geom = t.geom := by
  rw [toSingle_multi] at h
  obtain ⟨⟨t, sol⟩, he, h⟩ := Py.bind_eq_ok.mp h
  obtain ⟨⟨t2, s2⟩, hq, rfl⟩ := Py.map_eq_ok.mp h
  have hrb : t2.rb Rb = t.rb Rb := (rb_unrefreshed fl hfl brentG Rb T t t2 s2 hq).elim (·.1) (·.1)
  rw [matchRb_eq] at hq
  obtain ⟨s, _, hs2⟩ := Py.map_eq_ok.mp hq
  injection hs2 with h1 _
  subst h1
  exact ⟨t, sol, he, hrb, rfl, rfl, rfl⟩

/-! ### 6. Reach of the pipe-conductivity bracket; non-vacuity of the three branches -/
/-- **What the bracket `[k_p'/100, 10·k_p']` can reach.**  At its ends the equivalent tube has
    `R_fp = R_f' + 200·R_pipe` and `R_f' + R_pipe/5`.  (Outside the statement: with `rfp_monotone` the
    objective changes sign on the bracket iff `R_f' − 0.8·R_pipe < R_conv < R_f' + 199·R_pipe`.) -/
theorem pipe_bracket_ends (hConv : ℝ → ℝ) (rb : ℝ) (v : Vols ℝ) (hf : 0 < v.volFluid) (hp : 0 < v.volPipe)
    (hr : 0 < v.resistPipe) :
    eqRfp hConv rb v (kpLo rb v) = eqRf hConv rb v + 200 * v.resistPipe ∧
    eqRfp hConv rb v (kpHi rb v) = eqRf hConv rb v + v.resistPipe / 5 := by
  rw [kpLo_eq, kpHi_eq, eqRfp_at_multiple hConv rb v hf hp _ (by norm_num),
    eqRfp_at_multiple hConv rb v hf hp _ (by norm_num), nEq_two]
  constructor <;> ring

/-- Non-vacuity of `rfp_matched`: volumes `π, 3π`, `R_conv = R_pipe = 1`, `R_f' = 1`: the objective
    is `+199` and `−0.8` at the bracket ends, the root is `2·k_p'`, and an exact root finder
    (`δ = 0`) gives `R_fp' = R_conv + R_pipe` exactly. -/
example : ∃ t sol, equivalentSingleUTube realOps codeFlags
      (fun _ _ _ => .ok (2 * (equivGeometry realOps 1 ⟨Real.pi, 3 * Real.pi, 1, 1⟩).kPipe0,
                         2 * (equivGeometry realOps 1 ⟨Real.pi, 3 * Real.pi, 1, 1⟩).kPipe0))
      hOne 1 1 ⟨Real.pi, 3 * Real.pi, 1, 1⟩ = .ok (t, sol) ∧ sol.branch = .brent ∧ |t.rFp - (1 + 1)| ≤ 0 := by
  have hpi := Real.pi_pos
  set v : Vols ℝ := ⟨Real.pi, 3 * Real.pi, 1, 1⟩
  have hf : 0 < v.volFluid := hpi
  have hp : 0 < v.volPipe := by show 0 < 3 * Real.pi; positivity
  have hr : 0 < v.resistPipe := by show (0 : ℝ) < 1; norm_num
  have hk0 := geom_kPipe0_pos 1 v hf hp hr
  obtain ⟨e1, e2⟩ := pipe_bracket_ends hOne 1 v hf hp hr
  rw [eqRf_hOne 1 v hf] at e1 e2
  have eroot : eqRfp hOne 1 v (2 * (equivGeometry realOps 1 v).kPipe0) = 2 := by
    rw [eqRfp_at_multiple hOne 1 v hf hp _ (by norm_num), eqRf_hOne 1 v hf, nEq_two]
    show (1 : ℝ) + 2 * 1 / 2 = 2; norm_num
  obtain ⟨t, sol, h1, h2, _, h4⟩ := rfp_matched codeFlags
    (fun _ _ _ => .ok (2 * (equivGeometry realOps 1 v).kPipe0, 2 * (equivGeometry realOps 1 v).kPipe0))
    hOne 1 1 0 v hf hp
    (by rw [e1]; show (1 : ℝ) + 1 < 1 + 200 * 1; norm_num) (by rw [e2]; show (1 : ℝ) + 1 / 5 < 1 + 1; norm_num)
    _ rfl
    ⟨2 * (equivGeometry realOps 1 v).kPipe0, by rw [kpLo_eq]; linarith, by rw [kpHi_eq]; linarith,
      by show eqRfp hOne 1 v _ - ((1 : ℝ) + 1) = 0; rw [eroot]; norm_num, by simp, by simp⟩
    (by show (0 : ℝ) < 2 * _; linarith)
  refine ⟨t, sol, h1, h2, ?_⟩
  simpa using h4

/-- Non-vacuity of `rfp_unmatchable` (F10): same tube, `R_conv = 0`: target `1 ≤ R_f' = 1`. -/
example : ∃ t sol, equivalentSingleUTube realOps codeFlags (fun _ _ _ => .error .other) hOne 1 1
      ⟨Real.pi, 3 * Real.pi, 0, 1⟩ = .ok (t, sol) ∧ sol.branch = .upper ∧ (0 : ℝ) + 1 < t.rFp := by
  have hpi := Real.pi_pos
  have hp : (0 : ℝ) < 3 * Real.pi := by positivity
  obtain ⟨_, t, sol, h1, h2, _, _, h5⟩ := rfp_unmatchable codeFlags (fun _ _ _ => .error .other) hOne 1 1
    ⟨Real.pi, 3 * Real.pi, 0, 1⟩ hpi hp (by norm_num) (by rw [eqRf_hOne 1 _ hpi]; norm_num)
  exact ⟨t, sol, h1, h2, h5⟩

/-- Non-vacuity of `rfp_lower_clamp_keeps_upper`: same tube, `R_conv = 300`: target 301 is above
    `R_fp(k_lo) = 201`; `solve_root` returns `k_lo`, the pipe keeps `k_hi` with `R_fp' = 1.2`.  (The flag is spelled out so that
    the file still builds when the source starts using the solver's result.) -/
example : ∃ t sol, equivalentSingleUTube realOps { codeFlags with pipeResultUsed := false } (fun _ _ _ => .error .other) hOne 1 1
      ⟨Real.pi, 3 * Real.pi, 300, 1⟩ = .ok (t, sol) ∧ sol.branch = .lower ∧
      t.kPipe = kpHi 1 ⟨Real.pi, 3 * Real.pi, 300, 1⟩ ∧ t.rFp = 1 + 1 / 5 := by
  have hpi := Real.pi_pos
  have hp : (0 : ℝ) < 3 * Real.pi := by positivity
  obtain ⟨e1, e2⟩ := pipe_bracket_ends hOne 1 ⟨Real.pi, 3 * Real.pi, 300, 1⟩ hpi hp (by norm_num)
  rw [eqRf_hOne 1 _ hpi] at e1 e2
  obtain ⟨t, sol, h1, h2, _, h4, h5, _⟩ := rfp_lower_clamp_keeps_upper { codeFlags with pipeResultUsed := false } rfl (fun _ _ _ => .error .other) hOne 1 1
    ⟨Real.pi, 3 * Real.pi, 300, 1⟩ hpi hp (by norm_num) (by rw [e1]; norm_num)
  exact ⟨t, sol, h1, h2, h4, by rw [h5, e2]⟩

end GHEVerif.C15
