/-
  C11 — Combined g-function is well formed and interpolation-consistent.
  The comparison operators of `combine_sts_lts`, the tolerances and the kind ladder of
  `g_function_interpolation` are `Gen.GJoinConsts.*`, regenerated from the source on every check: flipping
  `<=` in the scan, or changing a tolerance or a threshold, breaks `source_constants_as_transcribed`.

  Not theorems (differential runs in harness/c11.py): 4–5 stored heights (scipy's not-a-knot splines) and the
  analytical finite-line-source anchor (a statement about pygfunction's quadrature).
-/
import GHEVerif.Lemmas.GJoin
import Mathlib.Analysis.SpecialFunctions.Log.Basic

namespace GHEVerif.C11
open GHEVerif GHEVerif.GJoin

/-- The constants the model reads from the source.  The generated tolerances are the exact rationals of the
    doubles `0.001` and `1e-6` (Gen/GJoinConsts.lean), hence "within `10⁻¹⁸` of `1/1000`", not "`= 1/1000`". -/
theorem source_constants_as_transcribed :
    Gen.GJoinConsts.branchOp = .lt ∧ Gen.GJoinConsts.scanOp = .le ∧
    Gen.GJoinConsts.nCubic = 5 ∧ Gen.GJoinConsts.nQuadratic = 3 ∧ Gen.GJoinConsts.nLinear = 2 ∧
    Gen.GJoinConsts.reqLinear = 2 ∧ Gen.GJoinConsts.reqQuadratic = 3 ∧ Gen.GJoinConsts.reqCubic = 4 ∧
    Gen.GJoinConsts.reqLagrange = 2 ∧
    |Gen.GJoinConsts.tolerance - 1 / 1000| < 1 / 10 ^ 18 ∧
    |Gen.GJoinConsts.closeTolerance - 1 / 10 ^ 6| < 1 / 10 ^ 21 := by
  refine ⟨rfl, rfl, rfl, rfl, rfl, rfl, rfl, rfl, rfl, ?_, ?_⟩
  · unfold Gen.GJoinConsts.tolerance; rw [abs_lt]; constructor <;> norm_num
  · unfold Gen.GJoinConsts.closeTolerance; rw [abs_lt]; constructor <;> norm_num

/-- Eskilson's 27 long-time abscissae `ln(t/t_s)` are strictly increasing and start at `−8.5`: the `hlts` of
    the join theorems holds of the real axis, with `m = −8.5`. -/
theorem eskilson_axis_strictly_increasing :
    Gen.eskilsonLogTimes.Pairwise (· < ·) ∧ Gen.eskilsonLogTimes.head? = some (-17 / 2) ∧
    Gen.eskilsonLogTimes.length = 27 := by
  decide +kernel

/-- **Join, well-formed case (both branches).**  Both inputs strictly increasing, no short-time abscissa equal
    to the first long-time abscissa `m`.  There is a cut index `i`, depending on the abscissae only, such that
    the code returns the first `i` short-time points followed by *all* long-time points; the joined axis is
    strictly increasing; the kept short-time abscissae are exactly those below `m`; and nothing is cut iff all
    of the short-time list lies below `m` (the `max_sts < min_lts` branch). -/
theorem join_strictly_increasing (m : Rat) (ltsRest stsT : List Rat)
    (hsts : stsT.Pairwise (· < ·)) (hlts : (m :: ltsRest).Pairwise (· < ·)) (hne : stsT ≠ [])
    (hneq : ∀ x ∈ stsT, x ≠ m) :
    ∃ i, i ≤ stsT.length ∧
      (stsT.take i ++ m :: ltsRest).Pairwise (· < ·) ∧
      (∀ x ∈ stsT.take i, x < m) ∧ (∀ x ∈ stsT.drop i, m < x) ∧
      (i = stsT.length ↔ ∀ x ∈ stsT, x < m) ∧
      ∀ (ltsG stsG : List Rat), stsG.length = stsT.length → ltsG.length = (m :: ltsRest).length →
        combineStsLts (m :: ltsRest) ltsG stsT stsG
          = .ok ((stsT.take i ++ m :: ltsRest).zip (stsG.take i ++ ltsG)) ∧
        (stsT.take i ++ m :: ltsRest).length = (stsG.take i ++ ltsG).length := by
  obtain ⟨i, hi, hpw, hlo, hhi, hiff, hj⟩ := joinLists_strict m ltsRest stsT hsts hlts hne hneq
  refine ⟨i, hi, hpw, hlo, hhi, hiff, fun ltsG stsG hgs hgl => ?_⟩
  have hlen : (stsT.take i ++ m :: ltsRest).length = (stsG.take i ++ ltsG).length := by
    simp only [List.length_append, List.length_take, hgs, hgl]
  exact ⟨combineStsLts_ok (hj ltsG stsG hgs) hlen (by simp) hpw, hlen⟩

/-- **The joined curve reproduces its parts.**  Calling the returned `interp1d` at any joined
    abscissa returns the joined ordinate: the (radius-corrected) long-time values on the long-time
    points and the short-time values on the kept short-time points. -/
theorem join_values_reproduced (m : Rat) (ltsRest ltsG stsT stsG : List Rat)
    (hsts : stsT.Pairwise (· < ·)) (hlts : (m :: ltsRest).Pairwise (· < ·)) (hne : stsT ≠ [])
    (hneq : ∀ x ∈ stsT, x ≠ m)
    (hgs : stsG.length = stsT.length) (hgl : ltsG.length = (m :: ltsRest).length) :
    ∃ tbl, combineStsLts (m :: ltsRest) ltsG stsT stsG = .ok tbl ∧
      (∀ p ∈ tbl, callInterp tbl p.1 = .ok p.2) ∧
      (∀ k (hk : k < (m :: ltsRest).length) (hk' : k < ltsG.length),
          callInterp tbl ((m :: ltsRest)[k]) = .ok ltsG[k]) ∧
      (∀ k (hk : k < stsT.length) (hk' : k < stsG.length), stsT[k] < m →
          callInterp tbl stsT[k] = .ok stsG[k]) := by
  obtain ⟨i, hi, hpw, -, hhi, -, hall⟩ := join_strictly_increasing m ltsRest stsT hsts hlts hne hneq
  obtain ⟨hc, hlen⟩ := hall ltsG stsG hgs hgl
  have hs := zip_pairwise_fst (le_of_eq hlen) hpw
  have hz : (stsT.take i ++ m :: ltsRest).zip (stsG.take i ++ ltsG)
      = (stsT.take i).zip (stsG.take i) ++ (m :: ltsRest).zip ltsG :=
    List.zip_append (by simp only [List.length_take, hgs])
  refine ⟨_, hc, fun p hp => callInterp_node hs hp, fun k hk hk' => ?_, fun k hk hk' hlt => ?_⟩
  · exact callInterp_node hs (p := (_, _)) (hz ▸ List.mem_append_right _ (getElem_mem_zip hk hk'))
  · have hki : k < i := by
      by_contra hge
      have hmem : stsT[k] ∈ stsT.drop i := List.mem_drop_iff_getElem.mpr ⟨k - i, by omega, by congr 1; omega⟩
      exact absurd hlt (not_lt.mpr (le_of_lt (hhi _ hmem)))
    have hmem := getElem_mem_zip (l := stsT.take i) (r := stsG.take i) (k := k)
      (by rw [List.length_take]; omega) (by rw [List.length_take]; omega)
    rw [List.getElem_take, List.getElem_take] at hmem
    exact callInterp_node hs (p := (_, _)) (hz ▸ List.mem_append_left _ hmem)

/-- **Boundary, excluded from the well-formed case:** the last short-time abscissa *equals* the
    first long-time one.  The scan runs off the end of the list: the code raises `IndexError`. -/
theorem join_equal_last (m : Rat) (ltsRest ltsG stsInit stsG : List Rat)
    (hsts : (stsInit ++ [m]).Pairwise (· < ·)) (hlts : (m :: ltsRest).Pairwise (· < ·)) :
    combineStsLts (m :: ltsRest) ltsG (stsInit ++ [m]) stsG = .error .indexError := by
  obtain ⟨i, -, -, -, hj⟩ := joinLists_sorted m ltsRest (stsInit ++ [m]) hsts hlts (by simp)
  have hall : ¬ ∃ x ∈ stsInit ++ [m], m < x := by
    rintro ⟨x, hx, h⟩
    rcases List.mem_append.mp hx with hx | hx
    · exact lt_asymm h ((List.pairwise_append.mp hsts).2.2 x hx m (by simp))
    · rw [List.mem_singleton.mp hx] at h; exact lt_irrefl _ h
  exact combineStsLts_error (by rw [hj, if_neg hall, if_pos (by simp)])

/-- **Boundary, excluded from the well-formed case:** an inner short-time abscissa equals the first long-time
    one and a later one lies above it.  The lists handed to `interp1d` then contain that abscissa twice (`≤` in
    the scan keeps the short-time copy).  About `joinLists`; what `interp1d` makes of them is not stated. -/
theorem join_equal_inner (m : Rat) (ltsRest ltsG stsT stsG : List Rat)
    (hsts : stsT.Pairwise (· < ·)) (hlts : (m :: ltsRest).Pairwise (· < ·))
    (hm : m ∈ stsT) (habove : ∃ y ∈ stsT, m < y) :
    ∃ i, joinLists (m :: ltsRest) ltsG stsT stsG = .ok (stsT.take i ++ m :: ltsRest, stsG.take i ++ ltsG) ∧
      m ∈ stsT.take i ∧ ¬ (stsT.take i ++ m :: ltsRest).Pairwise (· < ·) := by
  obtain ⟨i, -, -, hhi, hj⟩ := joinLists_sorted m ltsRest stsT hsts hlts (List.ne_nil_of_mem hm)
  have hmt : m ∈ stsT.take i := by
    rcases List.mem_append.mp (List.take_append_drop i stsT ▸ hm) with h | h
    · exact h
    · exact absurd (hhi m h) (lt_irrefl _)
  exact ⟨i, by rw [hj, if_pos habove], hmt,
    fun hpw => lt_irrefl _ ((List.pairwise_append.mp hpw).2.2 m hmt m (by simp))⟩

/-- **Interpolating at a stored height returns the stored curve** — table kinds.  `k` is the kind the call
    resolves to.  `h_eq` lands on the stored height `c.h` when `1/(B/H)·B` is exactly `c.h`, or within
    `close_tolerance` of it and `c.h` is the largest / smallest stored height.  Whatever table an earlier
    call left behind (`cache`), the answer is the same. -/
theorem interp_at_node (gf : GF) (bOverH : Rat) (kind : Kind) (k : RKind) (cache : Cache)
    (c : Curve) (mx mn : Rat)
    (hc : c ∈ gf.curves) (hd : (gf.curves.map (·.h)).Pairwise (· ≠ ·))
    (hlen : ∀ c' ∈ gf.curves, c'.g.length = gf.logTime.length)
    (hsep : Separated (gf.curves.map (·.h))) (hb : bOverH ≠ 0)
    (hmx : pyMaxL (gf.curves.map (·.h)) = .ok mx) (hmn : pyMinL (gf.curves.map (·.h)) = .ok mn)
    (hres : resolveKind kind gf.curves.length = .ok (some k))
    (hcov : Covered k gf.curves.length)
    (hcase : 1 / bOverH * gf.B = c.h
      ∨ (c.h = mx ∧ |1 / bOverH * gf.B - mx| < Gen.GJoinConsts.closeTolerance)
      ∨ (c.h = mn ∧ |1 / bOverH * gf.B - mn| < Gen.GJoinConsts.closeTolerance)) :
    ∃ o, gFunctionInterpolation gf bOverH kind cache = .ok o ∧ o.g = c.g ∧ o.rb = c.rb ∧
      o.hEq = c.h ∧ o.d = gf.d ∧ o.warned = false ∧ o.single = false := by
  have hhs : c.h ∈ gf.curves.map (·.h) := List.mem_map.mpr ⟨c, hc, rfl⟩
  have hq := hEqOf_node gf.B bOverH _ c.h mx mn hb hmx hmn hhs hsep hcase
  have hex : needsExtrap c.h mn mx = false := by
    unfold needsExtrap
    simp [(pyMinL_ok hmn).2 c.h hhs, (pyMaxL_ok hmx).2 c.h hhs]
  unfold gFunctionInterpolation
  simp only [hq, hmx, hmn, hres, bind, Except.bind, hex, tableFor_eq,
    interpTable_at_node gf k false c hc hd hlen hcov, pure, Except.pure]
  exact ⟨_, rfl, rfl, rfl, rfl, rfl, rfl, rfl⟩

/-- **No dependence on the call history.**  Whatever table state earlier calls left behind, a call
    returns the same curve, radius, depth, equivalent height and warning as on a fresh object. -/
theorem interp_independent_of_history (gf : GF) (bOverH : Rat) (kind : Kind) (cache : Cache) :
    (gFunctionInterpolation gf bOverH kind cache).map (fun o => (o.g, o.rb, o.d, o.hEq, o.warned, o.single))
      = (gFunctionInterpolation gf bOverH kind none).map (fun o => (o.g, o.rb, o.d, o.hEq, o.warned, o.single)) := by
  rcases gFunctionInterpolation_cases gf bOverH kind with ⟨e, he⟩ | ⟨hEq, mx, mn, -, -, -, ⟨-, hs⟩ | ⟨k, -, ht⟩⟩
  · rw [he, he]
  · rw [hs, hs, singleCurve_cache]
    cases singleCurve gf hEq mn (needsExtrap hEq mn mx) none with
    | error e => rfl
    | ok o => rfl
  · rw [ht, ht]

/-- What `kind` resolves to.  `Covered`: `default` with two stored heights (linear) and with three (the
    parabola, `[min, avg, max]` during sizing), Lagrange and linear with any number, the cubic with four.
    *Not* `Covered` (scipy splines): `default` with four heights (quadratic) and five (cubic).  And the
    reduction rule: `cubic` with three heights is quadratic, `quadratic` with two is linear. -/
theorem default_kinds_covered :
    resolveKind .default 2 = .ok (some .linear) ∧ Covered .linear 2 ∧
    resolveKind .default 3 = .ok (some .quadratic) ∧ Covered .quadratic 3 ∧
    resolveKind .default 4 = .ok (some .quadratic) ∧ resolveKind .default 5 = .ok (some .cubic) ∧
    (∀ n, 2 ≤ n → resolveKind .lagrange n = .ok (some .lagrange) ∧ Covered .lagrange n) ∧
    (∀ n, 2 ≤ n → resolveKind .linear n = .ok (some .linear) ∧ Covered .linear n) ∧
    resolveKind .cubic 4 = .ok (some .cubic) ∧ Covered .cubic 4 ∧
    resolveKind .cubic 3 = .ok (some .quadratic) ∧ resolveKind .quadratic 2 = .ok (some .linear) := by
  refine ⟨by decide, Or.inl rfl, by decide, Or.inr (Or.inl ⟨rfl, rfl⟩), by decide, by decide, ?_, ?_, by decide,
    Or.inr (Or.inr (Or.inl ⟨rfl, rfl⟩)), by decide, by decide⟩
  · exact fun n hn => ⟨by simp only [resolveKind, RKind.required, Gen.GJoinConsts.reqLagrange, Nat.not_lt.mpr hn,
      if_false], Or.inr (Or.inr (Or.inr rfl))⟩
  · exact fun n hn => ⟨by simp only [resolveKind, RKind.required, Gen.GJoinConsts.reqLinear, Nat.not_lt.mpr hn,
      if_false], Or.inl rfl⟩

/-- **One stored height** (`[H]` during the search).  The stored curve is returned, and — because
    `(h_eq − H)/H < tol  or  H − h_eq < tol` is true for *every* `h_eq` when `H > 0` — it is returned
    for any requested height: the "requires two g-function curves" `ValueError` cannot occur. -/
theorem interp_single_curve (gf : GF) (c : Curve) (bOverH : Rat) (cache : Cache)
    (hcur : gf.curves = [c]) (hpos : 0 < c.h) (hb : bOverH ≠ 0) :
    ∃ o, gFunctionInterpolation gf bOverH .default cache = .ok o ∧ o.g = c.g ∧ o.rb = c.rb ∧
      o.d = gf.d ∧ o.single = true ∧ o.cache = cache ∧
      ((1 / bOverH * gf.B = c.h ∨ |1 / bOverH * gf.B - c.h| < Gen.GJoinConsts.closeTolerance) →
        o.hEq = c.h ∧ o.warned = false) := by
  obtain ⟨h', hq, hcall⟩ := gFunctionInterpolation_single hcur hpos hb
  refine ⟨_, hcall cache, rfl, rfl, rfl, rfl, rfl, fun hcase => ?_⟩
  -- a height that is (or snaps to) the stored one: `h_eq` is the stored height, and nothing is extrapolated
  have hnode := hEqOf_node gf.B bOverH [c.h] c.h c.h c.h hb rfl rfl (by simp)
    (by intro a ha b hb' hne; simp at ha hb'; exact absurd (ha.trans hb'.symm) hne)
    (by rcases hcase with h | h
        · exact Or.inl h
        · exact Or.inr (Or.inl ⟨rfl, h⟩))
  have : h' = c.h := by rw [hnode] at hq; exact (Except.ok.inj hq).symm
  subst this
  refine ⟨rfl, ?_⟩
  simp [needsExtrap]

/-- The correction is the identity for equal radii (over ℝ, `Real.log`). -/
theorem radius_correction_id (g : List ℝ) (rb : ℝ) (hrb : rb ≠ 0) :
    radiusCorrectionG Real.log g rb rb = g := by
  unfold radiusCorrectionG
  simp [div_self hrb]

/-- The correction is additive in `ln` of the radius ratio: correcting `r₀ → r₁` and then
    `r₁ → r₂` is correcting `r₀ → r₂`; the total shift is `ln(r₂/r₀)`. -/
theorem radius_correction_additive (g : List ℝ) (r0 r1 r2 : ℝ) (h0 : 0 < r0) (h1 : 0 < r1) (h2 : 0 < r2) :
    radiusCorrectionG Real.log (radiusCorrectionG Real.log g r0 r1) r1 r2 = radiusCorrectionG Real.log g r0 r2 ∧
    radiusCorrectionG Real.log g r0 r2 = g.map (fun v => v - (Real.log r2 - Real.log r0)) := by
  refine ⟨radiusCorrectionG_trans Real.log g r0 r1 r2 ?_, ?_⟩
  · rw [Real.log_div h2.ne' h0.ne', Real.log_div h2.ne' h1.ne', Real.log_div h1.ne' h0.ne']
    ring
  · unfold radiusCorrectionG
    rw [Real.log_div h2.ne' h0.ne']

/-- The executable (`Rat`) model with Python's error branches takes the same value whenever both
    radii are positive (no exception), for any `log`; with `log 1 = 0` it is the identity for equal
    radii, and with `log (a·b) = log a + log b` on positives it is additive. -/
theorem radius_correction_model (log : Rat → Rat) (g : List Rat) (rb rbStar : Rat) (h0 : 0 < rb) (h1 : 0 < rbStar) :
    radiusCorrection log g rb rbStar = .ok (g.map (fun v => v - log (rbStar / rb))) ∧
    (log 1 = 0 → radiusCorrection log g rb rb = .ok g) ∧
    ((∀ a b, 0 < a → 0 < b → log (a * b) = log a + log b) → ∀ r2, 0 < r2 →
      (radiusCorrection log g rb rbStar >>= fun g1 => radiusCorrection log g1 rbStar r2)
        = radiusCorrection log g rb r2) := by
  refine ⟨radiusCorrection_pos log g h0 h1, ?_, ?_⟩
  · intro hl
    rw [radiusCorrection_pos log g h0 h0, div_self (ne_of_gt h0), hl]; simp
  · exact fun hmul r2 h2 => radiusCorrection_trans log g h0 h1 h2 hmul

/-- **Composition.**  Whenever the height interpolation returns a curve `o₀` of the length of the long-time
    axis, both radii are positive and the short-time axis is as in `join_strictly_increasing`,
    `grab_g_function` returns — for `g` and for `g_bhw`, with the *same* cut — the short-time points below the
    first long-time point followed by `o₀.g − log(r_b*/r_b)` on the whole long-time axis. -/
theorem grab_well_formed (log : Rat → Rat) (gf : GF) (rbStar : Rat) (stsT stsG stsGbhw : List Rat)
    (bOverH : Rat) (cache : Cache) (o0 : InterpOut) (m : Rat) (ltsRest : List Rat)
    (hint : gFunctionInterpolation gf bOverH .default cache = .ok o0)
    (hgl : o0.g.length = gf.logTime.length) (hrb : 0 < o0.rb) (hrs : 0 < rbStar)
    (haxis : gf.logTime = m :: ltsRest) (hlts : (m :: ltsRest).Pairwise (· < ·))
    (hsts : stsT.Pairwise (· < ·)) (hne : stsT ≠ []) (hneq : ∀ x ∈ stsT, x ≠ m)
    (hgs : stsG.length = stsT.length) (hgb : stsGbhw.length = stsT.length) :
    ∃ i, i ≤ stsT.length ∧
      grabGFunction log gf rbStar stsT stsG stsGbhw bOverH cache = .ok
        { g := (stsT.take i ++ gf.logTime).zip (stsG.take i ++ o0.g.map (fun v => v - log (rbStar / o0.rb))),
          gBhw := (stsT.take i ++ gf.logTime).zip (stsGbhw.take i ++ o0.g.map (fun v => v - log (rbStar / o0.rb))),
          rb := o0.rb, hEq := o0.hEq, cache := o0.cache } ∧
      (stsT.take i ++ gf.logTime).Pairwise (· < ·) ∧
      (∀ x ∈ stsT.take i, x < m) ∧ (∀ x ∈ stsT.drop i, m < x) := by
  obtain ⟨i, hi, hpw, hlo, hhi, _, hall⟩ := join_strictly_increasing m ltsRest stsT hsts hlts hne hneq
  have hcl : (o0.g.map (fun v => v - log (rbStar / o0.rb))).length = (m :: ltsRest).length := by
    rw [List.length_map, hgl, haxis]
  obtain ⟨h1, _⟩ := hall _ stsG hgs hcl
  obtain ⟨h2, _⟩ := hall _ stsGbhw hgb hcl
  refine ⟨i, hi, ?_, by rw [haxis]; exact hpw, hlo, hhi⟩
  unfold grabGFunction
  simp only [hint, bind, Except.bind, radiusCorrection_pos log o0.g hrb hrs, haxis, h1, h2,
    pure, Except.pure]

/-- **Error branches of the join**: an empty short-time or long-time list is the `ValueError` of
    `max([])` / `min([])`; ordinate lists of the wrong length are the `ValueError` of `interp1d`. -/
theorem join_degenerate_raises (ltsT ltsG stsT stsG : List Rat) :
    combineStsLts ltsT ltsG [] stsG = .error .valueError ∧
    (stsT ≠ [] → combineStsLts [] ltsG stsT stsG = .error .valueError) ∧
    (∀ t g, joinLists ltsT ltsG stsT stsG = .ok (t, g) → t.length ≠ g.length →
      combineStsLts ltsT ltsG stsT stsG = .error .valueError) := by
  refine ⟨rfl, ?_, ?_⟩
  · intro hne
    obtain ⟨mx, hmx, _, _⟩ := pyMaxL_of_ne_nil stsT hne
    unfold combineStsLts joinLists
    simp only [hmx, bind, Except.bind]
    rfl
  · intro t g hj hlen
    unfold combineStsLts
    simp only [hj, bind, Except.bind, interp1dCtor, ne_eq, hlen, not_false_eq_true, if_true]

/-- The table state reported after a successful table call is the one `tableAfter` predicts (the
    function the harness uses to thread the state through calls that raise): `built_for` of the
    present call. -/
theorem table_state_consistent (gf : GF) (bOverH : Rat) (kind : Kind) (cache : Cache) (o : InterpOut)
    (h : gFunctionInterpolation gf bOverH kind cache = .ok o) (hs : o.single = false) :
    o.cache = tableAfter gf bOverH kind cache := by
  rcases gFunctionInterpolation_cases gf bOverH kind with ⟨e, he⟩ | ⟨hEq, mx, mn, hq, hmx, hmn, ⟨-, hsg⟩ | ⟨k, hr, ht⟩⟩
  · rw [he] at h; cases h
  · rw [hsg] at h
    rw [singleCurve_single h] at hs
    cases hs
  · rw [ht] at h
    obtain ⟨v, hti, rfl⟩ := Py.map_eq_ok.mp h
    -- the table was evaluated, so every column was built
    unfold interpTable at hti
    obtain ⟨cols, hc, -⟩ := Py.bind_eq_ok.mp hti
    unfold tableAfter
    simp only [hq, hmx, hmn, hr, hc]

/-! ### Non-vacuity: each set of hypotheses is met by a concrete input -/

/-- Truncating branch: the short-time axis `[-15,-10,-9,-8]` overlaps the first long-time point. -/
example : ∃ tbl, combineStsLts [-17 / 2, -39 / 5] [3, 4] [-15, -10, -9, -8] [0, 1, 2, 5] = .ok tbl := by
  obtain ⟨i, _, _, _, _, _, h⟩ := join_strictly_increasing (-17 / 2) [-39 / 5] [-15, -10, -9, -8]
    (by decide +kernel)
    (by decide +kernel)
    (by simp)
    (by decide +kernel)
  exact ⟨_, (h [3, 4] [0, 1, 2, 5] rfl rfl).1⟩

/-- Concatenating branch (everything below −8.5) with ordinates: values are reproduced. -/
example : ∃ tbl, combineStsLts [-17 / 2, -39 / 5] [3, 4] [-15, -10, -9] [0, 1, 2] = .ok tbl ∧
    callInterp tbl (-39 / 5) = .ok 4 ∧ callInterp tbl (-10) = .ok 1 := by
  obtain ⟨tbl, h, _, hl, hs⟩ := join_values_reproduced (-17 / 2) [-39 / 5] [3, 4] [-15, -10, -9] [0, 1, 2]
    (by decide +kernel)
    (by decide +kernel)
    (by simp)
    (by decide +kernel)
    rfl rfl
  exact ⟨tbl, h, hl 1 (by simp) (by simp), hs 1 (by simp) (by simp) (by norm_num)⟩

example : combineStsLts ((-17 / 2 : Rat) :: [-39 / 5]) [3, 4] ([-15, -10] ++ [-17 / 2]) [0, 1, 2] = .error .indexError :=
  join_equal_last (-17 / 2) [-39 / 5] [3, 4] [-15, -10] [0, 1, 2]
    (by decide +kernel)
    (by decide +kernel)

example : ∃ i, (-17 / 2 : Rat) ∈ [-15, -17 / 2, -8].take i := by
  obtain ⟨i, _, h, _⟩ := join_equal_inner (-17 / 2) [-39 / 5] [3, 4] [-15, -17 / 2, -8] [0, 1, 2]
    (by decide +kernel)
    (by decide +kernel)
    (by simp) ⟨-8, by simp, by norm_num⟩
  exact ⟨i, h⟩

/-- The sizing family `[60, 97.5, 135]` m (`GJoin.gf3`), `B = 5` m, asked at `B/H = 5/97.5`: the middle curve. -/
example : ∃ o, gFunctionInterpolation gf3 (2 / 39) .default none = .ok o ∧ o.g = [3, 5] ∧ o.rb = 3 / 40 := by
  obtain ⟨o, h, hg, hr, _⟩ := interp_at_node gf3 (2 / 39) .default .quadratic none ⟨195 / 2, 3 / 40, [3, 5]⟩ 135 60
    (by simp [gf3]) gf3_distinct gf3_lengths gf3_separated (by norm_num) gf3_max gf3_min
    (by decide) (Or.inr (Or.inl ⟨rfl, rfl⟩))
    (Or.inl (by simp only [gf3]; norm_num))
  exact ⟨o, h, hg, hr⟩

/-- Snapping: asked 4·10⁻⁷ m above the largest stored height, the largest curve is returned;
    whatever table an earlier call left (here: a linear, extrapolating one). -/
example : ∃ o, gFunctionInterpolation gf3 (5 / (135 + 4 / 10 ^ 7)) .default (some (.linear, true)) = .ok o ∧
    o.g = [4, 9] := by
  obtain ⟨o, h, hg, _⟩ := interp_at_node gf3 (5 / (135 + 4 / 10 ^ 7)) .default .quadratic (some (.linear, true)) ⟨135, 3 / 40, [4, 9]⟩ 135 60
    (by simp [gf3]) gf3_distinct gf3_lengths gf3_separated (by norm_num) gf3_max gf3_min
    (by decide) (Or.inr (Or.inl ⟨rfl, rfl⟩))
    (Or.inr (Or.inl ⟨rfl, by
      simp only [gf3]; unfold Gen.GJoinConsts.closeTolerance
      rw [abs_of_nonneg (by norm_num)]; norm_num⟩))
  exact ⟨o, h, hg⟩

/-- One stored height (the search phase), asked at a *different* height: still the stored curve. -/
example : ∃ o, gFunctionInterpolation { B := 5, d := 2, logTime := [-17 / 2], curves := [⟨96, 3 / 40, [7]⟩] }
    (5 / 300) .default none = .ok o ∧ o.g = [7] := by
  obtain ⟨o, h, hg, _⟩ := interp_single_curve { B := 5, d := 2, logTime := [-17 / 2], curves := [⟨96, 3 / 40, [7]⟩] }
    ⟨96, 3 / 40, [7]⟩ (5 / 300) none rfl (by norm_num) (by norm_num)
  exact ⟨o, h, hg⟩

example : combineStsLts [-17 / 2] [1, 2] [-9] [0] = .error .valueError :=
  (join_degenerate_raises [-17 / 2] [1, 2] [-9] [0]).2.2 [-9, -17 / 2] [0, 1, 2]
    (by decide +kernel)
    (by simp)

example : radiusCorrectionG Real.log [1, 2] (3 / 40) (3 / 40) = [1, 2] :=
  radius_correction_id _ _ (by norm_num)

example : radiusCorrectionG Real.log (radiusCorrectionG Real.log [1, 2] (3 / 40) (1 / 10)) (1 / 10) (1 / 20)
    = radiusCorrectionG Real.log [1, 2] (3 / 40) (1 / 20) :=
  (radius_correction_additive _ _ _ _ (by norm_num) (by norm_num) (by norm_num)).1

example : radiusCorrection (fun _ => 1 / 4) [1, 2] (3 / 40) (1 / 10) = .ok [3 / 4, 7 / 4] := by
  rw [(radius_correction_model _ _ _ _ (by norm_num) (by norm_num)).1]; norm_num

end GHEVerif.C11
