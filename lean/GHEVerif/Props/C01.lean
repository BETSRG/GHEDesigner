/-
  C01 — Returned design keeps entering fluid temperature within the limits.
  Property theorems about the search/sizing model (Model/Search.lean).
  `E idx h` is the excess temperature of candidate `idx` at height `h`, an
  arbitrary function: the theorems hold for every thermal model, every candidate list, every
  sign pattern.  `sign`/`check_bracket` are the definitions regenerated from utilities.py.
-/
import GHEVerif.Lemmas.Search
import GHEVerif.Lemmas.SearchNested
import GHEVerif.Lemmas.SearchRowWise
import GHEVerif.Model.Pipeline
import GHEVerif.Lemmas.Pipeline
import GHEVerif.Lemmas.Flow

namespace GHEVerif.C01
open GHEVerif GHEVerif.Search GHEVerif.Report GHEVerif.Pipeline

/-- Whatever the excess function, a candidate selected by the integer bisection was evaluated at
    maximum height by this very search and meets the limits there (`E k maxH < 0`).  No
    monotonicity is assumed. -/
theorem bisect1D_bisection_feasible (counts : List Nat) (E : Nat → Rat → Rat) (cfg : Cfg)
    (k : Nat) (h : Rat) (tr : List (Nat × Rat))
    (hsel : bisect1D counts E cfg = (.selected k h .bisection, tr)) :
    h = cfg.maxH ∧ E k cfg.maxH < 0 ∧ (k, cfg.maxH) ∈ tr := by
  obtain ⟨_, _, _, h1, h2, h3, _⟩ := bisect1D_selected hsel
  exact ⟨h1, h2, h3⟩

/-- The early exit "size between min and max height of the smallest field" happens exactly on a
    sign change of the excess of candidate 0 between the two heights, so one end is feasible
    and the height root solve that follows is bracketed. -/
theorem bisect1D_bracket0 (counts : List Nat) (E : Nat → Rat → Rat) (cfg : Cfg)
    (k : Nat) (h : Rat) (tr : List (Nat × Rat))
    (hsel : bisect1D counts E cfg = (.selected k h .bracket0, tr)) :
    k = 0 ∧ h = cfg.maxH ∧
      ((E 0 cfg.minH < 0 ∧ 0 < E 0 cfg.maxH) ∨ (E 0 cfg.maxH < 0 ∧ 0 < E 0 cfg.minH)) := by
  obtain ⟨_, _, _, h⟩ := bisect1D_selected hsel
  exact h

/-- A selection on either `continue_if_design_unmet` escape path (loads too small, loads too large)
    needs the flag. -/
theorem bisect1D_escape_needs_flag (counts : List Nat) (E : Nat → Rat → Rat) (cfg : Cfg)
    (k : Nat) (h : Rat) (p : Path) (tr : List (Nat × Rat))
    (hsel : bisect1D counts E cfg = (.selected k h p, tr)) (hp : p = .tooSmallCont ∨ p = .tooBigCont) :
    cfg.cont = true := by
  obtain ⟨_, _, _, h⟩ := bisect1D_selected hsel
  rcases hp with rfl | rfl
  · exact h.1
  · exact h.1

/-- Summary used by the property: a selection that is not an unmet-design escape is either
    feasible at maximum height, or bracketed between the two heights on the smallest field. -/
theorem bisect1D_selected_feasible (counts : List Nat) (E : Nat → Rat → Rat) (cfg : Cfg)
    (k : Nat) (h : Rat) (p : Path) (tr : List (Nat × Rat))
    (hsel : bisect1D counts E cfg = (.selected k h p, tr))
    (hne : p ≠ .tooSmallCont ∧ p ≠ .tooBigCont) :
    h = cfg.maxH ∧ (E k cfg.maxH < 0 ∨ (k = 0 ∧ E 0 cfg.minH < 0 ∧ 0 < E 0 cfg.maxH)) := by
  cases p with
  | bisection =>
    obtain ⟨h1, h2, _⟩ := bisect1D_bisection_feasible counts E cfg k h tr hsel
    exact ⟨h1, Or.inl h2⟩
  | bracket0 =>
    obtain ⟨h1, h2, h3⟩ := bisect1D_bracket0 counts E cfg k h tr hsel
    subst h1
    rcases h3 with h3 | h3
    · exact ⟨h2, Or.inr ⟨rfl, h3⟩⟩
    · exact ⟨h2, Or.inl h3.1⟩
  | tooSmallCont => exact absurd rfl hne.1
  | tooBigCont => exact absurd rfl hne.2

/-! ### nested searches (bi-rectangle: `Bisection2D`; bi-zoned and polygon-constrained: `BisectionZD`) -/

/-- A field returned by `Bisection2D` is the selection of `Bisection1D.search` on its inner list,
    so it is feasible at maximum height (or bracketed on the smallest field) unless it is a
    `continue_if_design_unmet` escape, which needs the flag. -/
theorem bisect2D_selected_feasible (nc : List (List Nat)) (E2 : Nat → Nat → Rat → Rat) (cfg : Cfg)
    (l k : Nat) (hh : Rat) (tr : Trace2) (h : bisect2D nc E2 cfg = (.selected l k hh, tr)) :
    ∃ p : Path, ((p ≠ .tooSmallCont ∧ p ≠ .tooBigCont) →
            hh = cfg.maxH ∧ (E2 l k cfg.maxH < 0 ∨ (k = 0 ∧ E2 l 0 cfg.minH < 0 ∧ 0 < E2 l 0 cfg.maxH))) ∧
         ((p = .tooSmallCont ∨ p = .tooBigCont) → cfg.cont = true) := by
  obtain ⟨_, p, tr', h1⟩ := bisect2D_selected h
  exact ⟨p, fun hne => bisect1D_selected_feasible _ _ cfg k hh p tr' h1 hne,
    fun hp => bisect1D_escape_needs_flag _ _ cfg k hh p tr' h1 hp⟩

/-- The same for the bi-zoned search (`BisectionZD.search_successive`, after the F16 repair): the
    returned field is the selection of the 1D search of the chosen list, and the height it is left
    at is the sized height of that field. -/
theorem bisectZD_selected_feasible (nc : List (List Nat)) (E2 : Nat → Nat → Rat → Rat) (sz : Nat → Nat → Rat)
    (cfg : Cfg) (l k : Nat) (hh : Rat) (tr : Trace2) (h : bisectZD nc E2 sz cfg = (.selected l k hh, tr)) :
    hh = sz l k ∧ ∃ (p : Path) (h1 : Rat), ((p ≠ .tooSmallCont ∧ p ≠ .tooBigCont) →
            h1 = cfg.maxH ∧ (E2 l k cfg.maxH < 0 ∨ (k = 0 ∧ E2 l 0 cfg.minH < 0 ∧ 0 < E2 l 0 cfg.maxH))) ∧
         ((p = .tooSmallCont ∨ p = .tooBigCont) → cfg.cont = true) := by
  obtain ⟨e, _, ⟨h1, p, tr', hs⟩, _⟩ := bisectZD_selected h
  exact ⟨e, p, h1, fun hne => bisect1D_selected_feasible _ _ cfg k h1 p tr' hs hne,
    fun hp => bisect1D_escape_needs_flag _ _ cfg k h1 p tr' hs hp⟩

/-! ### RowWise search (`RowWiseModifiedBisectionSearch.search`) -/

/-- Whatever the excess function (no monotonicity in the spacing assumed), the field the RowWise
    search returns meets the limits at maximum height (`≤ 0`), unless it is the
    `continue_if_design_unmet` escape, which needs the flag and both end fields failing. -/
theorem rowwise_selected_feasible (Es : Rat → Rat) (nb : Rat → Nat) (szs : Rat → Rat) (E1 : Rat)
    (Esub : Nat → Rat) (c : RWCfg) (f : RWSel) (esc : Bool) (tr : List RWEval)
    (h : rowwiseSearch Es nb szs E1 Esub c = (.selected f esc, tr)) :
    (esc = true ∧ c.cont = true ∧ f = .atSpacing c.start ∧ 0 < Es c.start ∧ 0 < Es c.stop) ∨
    (esc = false ∧ rwExcess Es E1 Esub f ≤ 0) := by
  have h1 : (rowwiseSearch Es nb szs E1 Esub c).1 = .selected f esc := by rw [h]
  rcases rowwiseSearch_cases Es nb szs E1 Esub c with ⟨a, b, e⟩ | ⟨_, _, s, e, hs⟩ | ⟨_, _, f', e, hf, _⟩ | ⟨_, _, _, e⟩ <;>
    rw [e] at h1
  · by_cases hc : c.cont = true
    · rw [if_pos hc] at h1; cases h1; exact Or.inl ⟨rfl, hc, rfl, a, b⟩
    · rw [if_neg hc] at h1; cases h1
  · cases h1; exact Or.inr ⟨rfl, hs⟩
  · cases h1; exact Or.inr ⟨rfl, hf⟩
  · cases h1

/-! ### the height root solve (`utilities.solve_root` as used by `GHE.size`) -/

/-- scipy's documented guarantee for `brentq` on a sign-changing continuous function. -/
def BrentSpec (f : Rat → Rat) (lo hi tol x : Rat) : Prop :=
  lo ≤ x ∧ x ≤ hi ∧ ∃ r, lo ≤ r ∧ r ≤ hi ∧ f r = 0 ∧ ratAbs (x - r) ≤ tol

/-- `|f a - f b| ≤ c |a - b|` on the bracket. -/
def Lipschitz (f : Rat → Rat) (c lo hi : Rat) : Prop :=
  ∀ a b, lo ≤ a → a ≤ hi → lo ≤ b → b ≤ hi → ratAbs (f a - f b) ≤ c * ratAbs (a - b)

theorem sgn_eq {v : Rat} {s : Int} : sgn v = .ok s ↔ (0 < v ∧ s = 1) ∨ (v < 0 ∧ s = -1) := by
  rw [sgn_eq_sign]; exact sign_ok_iff

/-- Both ends negative (the limits are kept at minimum and at maximum height): the solver clamps to
    the lower bound, and the design is feasible there. -/
theorem solveRoot_clamped_low (x : Rat) (f : Rat → Rat) (lo hi brent : Rat)
    (hlo : f lo < 0) (hhi : f hi < 0) : solveRoot x f lo hi brent = .ok (.clampedLow, lo) := by
  rw [solveRoot_eq, if_neg (not_or.mpr ⟨hlo.ne, hhi.ne⟩), if_pos ⟨hlo, hhi⟩]

/-- Both ends positive: the solver clamps to the upper bound. -/
theorem solveRoot_clamped_high (x : Rat) (f : Rat → Rat) (lo hi brent : Rat)
    (hlo : 0 < f lo) (hhi : 0 < f hi) : solveRoot x f lo hi brent = .ok (.clampedHigh, hi) := by
  rw [solveRoot_eq, if_neg (not_or.mpr ⟨hlo.ne', hhi.ne'⟩), if_neg (fun h => hlo.not_gt h.1), if_pos ⟨hlo, hhi⟩]

/-- Opposite signs: the solver returns what Brent returns; under Brent's contract and a Lipschitz
    bound `c` the excess at the returned height is within `c·tol` of zero. -/
theorem solveRoot_bracketed (x : Rat) (f : Rat → Rat) (lo hi brent tol c : Rat)
    (hsig : (f lo < 0 ∧ 0 < f hi) ∨ (f hi < 0 ∧ 0 < f lo))
    (hb : BrentSpec f lo hi tol brent) (hl : Lipschitz f c lo hi) :
    solveRoot x f lo hi brent = .ok (.bracketed, brent) ∧ ratAbs (f brent) ≤ c * tol ∧
      lo ≤ brent ∧ brent ≤ hi := by
  obtain ⟨b1, b2, r, r1, r2, hr, hd⟩ := hb
  have hlohi : lo ≤ hi := le_trans b1 b2
  -- the Lipschitz constant of a function that changes sign is not negative
  have hc : 0 ≤ c := by
    have h1 := hl lo hi (le_refl _) hlohi hlohi (le_refl _)
    rw [ratAbs_eq_abs, ratAbs_eq_abs] at h1
    have h2 : 0 < |f lo - f hi| := abs_pos.mpr (sub_ne_zero.mpr
      (hsig.elim (fun h => (h.1.trans h.2).ne) fun h => (h.1.trans h.2).ne'))
    exact (pos_of_mul_pos_left (lt_of_lt_of_le h2 h1) (abs_nonneg _)).le
  have := hl brent r b1 b2 r1 r2
  rw [hr, sub_zero] at this
  exact ⟨solveRoot_of_sign_change hsig, le_trans this (mul_le_mul_of_nonneg_left hd hc), b1, b2⟩

/-- The sizing step after a selection that is feasible at max height (`f hi < 0`) can never take
    the both-positive clamp: the returned height is either the lower bound with `f lo < 0`, or a
    Brent root.  In both cases the excess at the returned height is at most `c·tol`. -/
theorem size_after_feasible_selection (x : Rat) (f : Rat → Rat) (lo hi brent tol c : Rat)
    (hhi : f hi < 0) (hlo : f lo ≠ 0) (hb : 0 < f lo → BrentSpec f lo hi tol brent)
    (hl : Lipschitz f c lo hi) (hct : 0 ≤ c * tol) :
    ∃ kind H, solveRoot x f lo hi brent = .ok (kind, H) ∧ kind ≠ .clampedHigh ∧ f H ≤ c * tol := by
  rcases solveRoot_after_feasible x f lo hi brent hhi hlo with ⟨h, e⟩ | ⟨h, e⟩
  · exact ⟨_, _, e, by decide, h.le.trans hct⟩
  · have hr := (solveRoot_bracketed x f lo hi brent tol c (Or.inr ⟨hhi, h⟩) (hb h) hl).2.1
    exact ⟨_, _, e, by decide, le_trans (by rw [ratAbs_eq_abs]; exact le_abs_self _) hr⟩

/-! ### the whole `find_design` pipeline -/

/-- End-to-end statement for EVERY design method: whenever `find_design` returns a design whose
    selected candidate is feasible at maximum height in the sizing objective (`f k maxH < 0`: for a
    selection that is not a `continue_if_design_unmet` escape the search-stage excess is negative
    there — `*_selected_feasible` — and the `Consistent` contract, measured on every real run, says
    the three-height interpolated objective agrees in sign), then under Brent's contract and a
    Lipschitz constant `c` the final object (o) is the candidate the search selected, (i) reports
    temperatures computed at its final height, (ii) has its height inside `[min_height,
    max_height]`, and (iii) has excess at most `c·tol` at that height. -/
theorem find_design_feasible {α β : Type} (search : SearchRes α β) (E : α → Rat → Rat) (minH maxH : Rat)
    (f : α → Rat → Rat) (its : α → List Rat) (brent : α → Rat) (d : DesignG α β) (tol c : Rat)
    (hres : findDesignG search E minH maxH f its brent = .design d)
    (hwin : minH ≤ maxH)
    (hfeas : f d.field maxH < 0)
    (hnz : f d.field minH ≠ 0)
    (hb : 0 < f d.field minH → BrentSpec (f d.field) minH maxH tol (brent d.field))
    (hl : Lipschitz (f d.field) c minH maxH) (hct : 0 ≤ c * tol) :
    (∃ h, search = .selected d.field h d.path) ∧
    d.st.simAt = some d.st.H ∧ minH ≤ d.st.H ∧ d.st.H ≤ maxH ∧ f d.field d.st.H ≤ c * tol := by
  obtain ⟨hsel, hsim, _⟩ := findDesignG_design hres
  refine ⟨hsel, hsim, ?_⟩
  rcases findDesignG_design_feasible hres hfeas hnz with ⟨hneg, hH⟩ | ⟨hpos, hH⟩
  · rw [hH]
    exact ⟨le_refl _, hwin, hneg.le.trans hct⟩
  · rw [hH]
    obtain ⟨_, h3, h4, h5⟩ := solveRoot_bracketed ((maxH + minH) / 2) _ _ _ _ tol c (Or.inr ⟨hfeas, hpos⟩) (hb hpos) hl
    exact ⟨h4, h5, le_trans (by rw [ratAbs_eq_abs]; exact le_abs_self _) h3⟩

/-- The flat searches (near-square, rectangle): the returned design is the field `Bisection1D.search`
    selected, and it keeps the limits within `c·tol` at its final height. -/
theorem find_design_feasible_1D (counts : List Nat) (E : Nat → Rat → Rat) (cfg : Cfg)
    (f : Nat → Rat → Rat) (its : Nat → List Rat) (brent : Nat → Rat) (d : Design) (tol c : Rat)
    (hres : findDesign1D counts E cfg f its brent = .design d)
    (hwin : cfg.minH ≤ cfg.maxH)
    (hcons : E d.field cfg.maxH < 0 → f d.field cfg.maxH < 0)
    (hfeas : E d.field cfg.maxH < 0)
    (hnz : f d.field cfg.minH ≠ 0)
    (hb : 0 < f d.field cfg.minH → BrentSpec (f d.field) cfg.minH cfg.maxH tol (brent d.field))
    (hl : Lipschitz (f d.field) c cfg.minH cfg.maxH) (hct : 0 ≤ c * tol) :
    (∃ h, (bisect1D counts E cfg).1 = .selected d.field h d.path) ∧
    d.st.simAt = some d.st.H ∧ cfg.minH ≤ d.st.H ∧ d.st.H ≤ cfg.maxH ∧ f d.field d.st.H ≤ c * tol := by
  obtain ⟨⟨h, hsel⟩, rest⟩ := find_design_feasible _ E cfg.minH cfg.maxH f its brent d tol c hres hwin (hcons hfeas) hnz hb hl hct
  exact ⟨⟨h, search1D_selected hsel⟩, rest⟩

/-- The nested searches (bi-rectangle: `Bisection2D`; bi-zoned and polygon-constrained:
    `BisectionZD`): the returned design is the (list, index) pair the search selected. -/
theorem find_design_feasible_nested (o : Outcome2) (E2 : Nat → Nat → Rat → Rat) (minH maxH : Rat)
    (f : Nat × Nat → Rat → Rat) (its : Nat × Nat → List Rat) (brent : Nat × Nat → Rat)
    (d : DesignG (Nat × Nat) Unit) (tol c : Rat)
    (hres : findDesignG (searchOf2 o) (fun lk => E2 lk.1 lk.2) minH maxH f its brent = .design d)
    (hwin : minH ≤ maxH)
    (hfeas : f d.field maxH < 0)
    (hnz : f d.field minH ≠ 0)
    (hb : 0 < f d.field minH → BrentSpec (f d.field) minH maxH tol (brent d.field))
    (hl : Lipschitz (f d.field) c minH maxH) (hct : 0 ≤ c * tol) :
    (∃ h, o = .selected d.field.1 d.field.2 h) ∧
    d.st.simAt = some d.st.H ∧ minH ≤ d.st.H ∧ d.st.H ≤ maxH ∧ f d.field d.st.H ≤ c * tol := by
  obtain ⟨⟨h, hsel⟩, rest⟩ := find_design_feasible _ _ minH maxH f its brent d tol c hres hwin hfeas hnz hb hl hct
  exact ⟨⟨h, searchOf2_selected hsel⟩, rest⟩

/-- The RowWise search: the returned design is the field `RowWiseModifiedBisectionSearch.search`
    returned (with its escape flag), sized from maximum height. -/
theorem find_design_feasible_rowwise (Es : Rat → Rat) (nb : Rat → Nat) (szs : Rat → Rat) (E1 : Rat) (Esub : Nat → Rat)
    (cfg : RWCfg) (minH maxH : Rat) (E f : RWSel → Rat → Rat) (its : RWSel → List Rat) (brent : RWSel → Rat)
    (d : DesignG RWSel Bool) (tol c : Rat)
    (hres : findDesignG (searchRW Es nb szs E1 Esub cfg maxH) E minH maxH f its brent = .design d)
    (hwin : minH ≤ maxH)
    (hfeas : f d.field maxH < 0)
    (hnz : f d.field minH ≠ 0)
    (hb : 0 < f d.field minH → BrentSpec (f d.field) minH maxH tol (brent d.field))
    (hl : Lipschitz (f d.field) c minH maxH) (hct : 0 ≤ c * tol) :
    (rowwiseSearch Es nb szs E1 Esub cfg).1 = .selected d.field d.path ∧
    d.st.simAt = some d.st.H ∧ minH ≤ d.st.H ∧ d.st.H ≤ maxH ∧ f d.field d.st.H ≤ c * tol := by
  obtain ⟨⟨h, hsel⟩, rest⟩ := find_design_feasible _ E minH maxH f its brent d tol c hres hwin hfeas hnz hb hl hct
  exact ⟨(searchRW_selected hsel).2, rest⟩

/-- A concrete run of the flat pipeline: search (candidate 2), then a bracketed sizing whose Brent
    root is 110 m: the object ends at H = 110 with temperatures simulated at 110. -/
example :
    findDesign1D [1, 4, 9, 16] (fun i h => if h = 135 then (3 : Rat) - 2 * i else 10 - 2 * i)
      { cap := none, cont := false, maxIter := 15, minH := 60, maxH := 135 }
      (fun k h => (3 : Rat) - 2 * k + (135 - h) / 25) (fun _ => [100, 112]) (fun _ => 110)
      = .design { field := 2, path := .bisection, st := { H := 110, simAt := some 110, returned := 110 } } := by
  decide +kernel

/-- A concrete run on a nested outcome: list 1, candidate 2, bracketed sizing with Brent root 110 m. -/
example :
    findDesignG (searchOf2 (.selected 1 2 135)) (fun _ _ => (0 : Rat)) 60 135
      (fun _ h => (135 - h) / 25 - 1) (fun _ => [100, 112]) (fun _ => 110)
      = .design { field := (1, 2), path := (), st := { H := 110, simAt := some 110, returned := 110 } } := by
  decide +kernel

/-- A concrete search: a 4-candidate list with a decreasing excess; candidate 2 is selected on the
    bisection path. -/
example :
    (bisect1D [1, 4, 9, 16] (fun i h => if h = 135 then (3 : Rat) - 2 * i else 10 - 2 * i)
      { cap := none, cont := false, maxIter := 15, minH := 60, maxH := 135 }).1
      = .selected 2 135 .bisection := by decide +kernel

/-- "…and flow specification": every field a search evaluates (either copy of `retrieve_flow`,
    regenerated from search_routines.py) is handed to the GHE with the REQUESTED system flow — `v·N`
    for a per-borehole specification, `v` for a system specification — and `BaseGHE.__init__`
    then simulates each borehole with that system flow divided by the number of boreholes. -/
theorem evaluated_field_flow_as_requested (c : Flow.Copy) (v rho : Rat) (cs : List (Rat × Rat)) (h : cs ≠ []) :
    (∃ mb, Flow.retrieveFlow c .borehole v cs rho = .ok (v * (cs.length : Rat), mb) ∧
        Flow.baseGhe (v * (cs.length : Rat)) cs.length rho = .ok (v, Flow.massFlow v rho)) ∧
    (∃ mb, Flow.retrieveFlow c .system v cs rho = .ok (v, mb) ∧
        Flow.baseGhe v cs.length rho = .ok (v / (cs.length : Rat), Flow.massFlow (v / (cs.length : Rat)) rho)) := by
  have hn : cs.length ≠ 0 := (List.length_pos_iff.mpr h).ne'
  refine ⟨⟨_, Flow.retrieveFlow_borehole c v cs rho, ?_⟩, ⟨_, Flow.retrieveFlow_system c v cs rho h, ?_⟩⟩
  · rw [Flow.baseGhe_pos hn, mul_div_cancel_right₀ v (Flow.length_cast_ne_zero h)]
  · exact Flow.baseGhe_pos hn _ _

end GHEVerif.C01
