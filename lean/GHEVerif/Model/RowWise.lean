/-
  Model of RowWise field generation (ghedesigner/rowwise.py, ghedesigner/shape.py) for a
  property outline WITHOUT no-go zones and WITHOUT perimeter spacing:
    `gen_borehole_config`, `Shapes.line_intersect`, `vector_intersect`, `sort_intersections`,
    `Shapes.point_intersect`, `process_rows` (the `no_go == []` path), `distribute`,
    `find_duplicates`/`remove_duplicates`, and the rotation sweep `field_optimization_fr`.

  Numbers are `Rat`.  The rotation enters as an exact pair `(c, s) = (cos rotate, sin rotate)`
  with `c² + s² = 1` (0°, ±90°, Pythagorean angles are executable exactly; the implementation is
  called with `atan2(s, c)`).  Two places of the code take a square root of a squared distance
  between two points of the same row; for such points (`q − p ∥ (c, s)`) the root is
  `|(q − p)·(c, s)|`, which is what `rowDist` computes (lemma `rowDist_sq` in Lemmas/RowWise.lean;
  all call sites are shown to be on one row there).  `dist_vert * sin(phi − rotate)` with
  `phi = atan(y/x)` is `y c − x s` for `x > 0`, its negative for `x < 0`, and `|y| c` for `x = 0`
  (`ypOf`).

  What raises in Python returns `.error …`; the `while` loop of `distribute`, which the code runs
  without a bound, is run with the fuel `n + 2` (`n` = number of steps planned) and `.error .other`
  stands for "does not terminate" (lemmas `distLoop_ahead`: fuel `n + 1` is enough when the end point is
  `n` steps ahead on the row; `distLoop_fuel_mono`: more fuel never changes an answer; behind the start
  point the distance only grows, e.g. `distribute 0 (-1) 7 (0, 30) (0, 0) []` is `.error .other`).
  Constants (`1e-8`, `10**-1`, `1.2`, `1000.0`, `10`, default tolerances) come from
  GHEVerif.Gen.RowWise, regenerated from the source on every check.  Core Lean only.

  NOT modelled: no-go zones (`process_rows` with intersections, `not_inside`), perimeter placement
  (`two_space_gen_bhc`, `perimeter_distribute`, `remove_points_too_close`), a negative
  `intersection_tolerance`.  `rotate = -pi/2` in floating point has cos = 6e-17, not 0: with the source test
  `row_space[1] == 0` (verticalRowRatio = 0) the code then works with a row of slope -8e15 and the model's
  exact vertical row `(0, -1)` does not describe it; with `abs(row_space[1]) <= 1e-12*abs(row_space[0])` it does.
  Exact rotations in the band `0 < |c| ≤ K·|s|` (row declared vertical although not vertical) are outside the
  theorems (hypothesis `c = 0 ∨ K·|s| < |c|`); no floating-point sweep reaches the band except through ±pi/2.
-/
import GHEVerif.Model.Py
import GHEVerif.Gen.RowWise

namespace GHEVerif.RowWise
open GHEVerif

abbrev Pt := Rat × Rat

/-- A line given by two points `[x1, y1, x2, y2]`. -/
structure Seg where
  x1 : Rat
  y1 : Rat
  x2 : Rat
  y2 : Rat
  deriving Repr, DecidableEq

/-- Position along the row direction: `x cos(rotate) + y sin(rotate)` (the sort key). -/
def proj (c s : Rat) (p : Pt) : Rat := p.1 * c + p.2 * s

/-- `sqrt((p−q)·(p−q))` for two points of one row of direction `(c, s)`. -/
def rowDist (c s : Rat) (p q : Pt) : Rat := ratAbs (proj c s q - proj c s p)

/-- `sum_sq_dist`. -/
def sqDist (p q : Pt) : Rat := (p.1 - q.1) * (p.1 - q.1) + (p.2 - q.2) * (p.2 - q.2)

def mid (p q : Pt) : Pt := ((p.1 + q.1) / 2, (p.2 + q.2) / 2)

/-- `p + t (cos, sin)`. -/
def along (c s : Rat) (p : Pt) (t : Rat) : Pt := (p.1 + t * c, p.2 + t * s)

/-! ### gen_borehole_config: lowest / highest vertex -/

/-- `dist_vert * sin(ref_angle - rotate)` with `phi = atan(y/x)` (`pi/2` when `x = 0`). -/
def ypOf (c s : Rat) (v : Pt) : Rat :=
  if v.1 = 0 then ratAbs v.2 * c
  else if 0 < v.1 then v.2 * c - v.1 * s
  else -(v.2 * c - v.1 * s)

/-- The vertex loop: `none` is the initial `±inf`; strict comparisons, first extreme wins. -/
def extremes (c s : Rat) : List Pt → Option (Rat × Pt) → Option (Rat × Pt) →
    Option (Rat × Pt) × Option (Rat × Pt)
  | [], lo, hi => (lo, hi)
  | v :: vs, lo, hi =>
    let y := ypOf c s v
    let lo' := match lo with
      | none => some (y, v)
      | some (l, lv) => if y < l then some (y, v) else some (l, lv)
    let hi' := match hi with
      | none => some (y, v)
      | some (h, hv) => if y > h then some (y, v) else some (h, hv)
    extremes c s vs lo' hi'

/-! ### shape.vector_intersect / Shapes.line_intersect / sort_intersections -/

/-- slope and intercept of a line, `none` = `float("inf")`. -/
def slope (x1 y1 x2 y2 : Rat) : Option (Rat × Rat) :=
  if x2 - x1 = 0 then none
  else
    let a := (y2 - y1) / (x2 - x1)
    some (a, y1 - x1 * a)

def vectorIntersect (l1 l2 : Seg) (tol : Rat) : List Pt :=
  match slope l1.x1 l1.y1 l1.x2 l1.y2, slope l2.x1 l2.y1 l2.x2 l2.y2 with
  | none, none => if ratAbs (l1.x1 - l2.x1) < tol then [(l1.x1, l1.y1), (l1.x2, l1.y2)] else []
  | none, some (a2, c2) => [(l1.x1, a2 * l1.x1 + c2)]
  | some (a1, c1), none => [(l2.x1, a1 * l2.x1 + c1)]
  | some (a1, c1), some (a2, c2) =>
    if ratAbs (a1 - a2) ≤ tol then []
    else [((c2 - c1) / (a1 - a2), a1 * (c2 - c1) / (a1 - a2) + c1)]

/-- Cyclic edges `(c[i], c[i+1])`, the last one `(c[n-1], c[0])`. -/
def edges (poly : List Pt) : List (Pt × Pt) := poly.zip (poly.drop 1 ++ poly.take 1)

/-- The bounding-box filter of `line_intersect` (kept when none of the four tests fires). -/
def inBox (tol : Rat) (c1 c2 r : Pt) : Bool :=
  !(decide (r.1 - ratMax c2.1 c1.1 > tol) || decide (r.1 - ratMin c2.1 c1.1 < -1 * tol)
    || decide (r.2 - ratMax c2.2 c1.2 > tol) || decide (r.2 - ratMin c2.2 c1.2 < -1 * tol))

def edgeHit (row : Seg) (tol : Rat) (e : Pt × Pt) : List Pt :=
  match vectorIntersect ⟨e.1.1, e.1.2, e.2.1, e.2.2⟩ row tol with
  | [r] => if inBox tol e.1 e.2 r then [r] else []
  | _ => []

def rawIntersections (poly : List Pt) (row : Seg) (tol : Rat) : List Pt :=
  (edges poly).flatMap (edgeHit row tol)

/-- Order of `sorted(zip(vals, r_a))`: by projection, ties by the point itself (x, then y). -/
def keyLe (c s : Rat) (p q : Pt) : Bool :=
  decide (proj c s p < proj c s q) ||
    (decide (proj c s p = proj c s q) && (decide (p.1 < q.1) || (decide (p.1 = q.1) && decide (p.2 ≤ q.2))))

def insertKey (c s : Rat) (p : Pt) : List Pt → List Pt
  | [] => [p]
  | q :: qs => if keyLe c s p q then p :: q :: qs else q :: insertKey c s p qs

def sortIntersections (c s : Rat) (l : List Pt) : List Pt := l.foldr (insertKey c s) []

def lineIntersect (poly : List Pt) (row : Seg) (c s tol : Rat) : List Pt :=
  sortIntersections c s (rawIntersections poly row tol)

/-! ### Shapes.point_intersect -/

def listMax : List Rat → Rat
  | [] => 0
  | x :: xs => xs.foldl ratMax x
def listMin : List Rat → Rat
  | [] => 0
  | x :: xs => xs.foldl ratMin x

def pointIntersect (poly : List Pt) (p : Pt) : Bool :=
  let xs := poly.map (·.1)
  let ys := poly.map (·.2)
  if p.1 > listMax xs ∨ p.1 < listMin xs ∨ p.2 > listMax ys ∨ p.2 < listMin ys then false
  else
    let farX := listMin xs - Gen.RowWise.farShift
    let inters := lineIntersect poly ⟨farX, p.2, farX + Gen.RowWise.farStep, p.2⟩ 1 0 Gen.RowWise.lineIntersectTol
    let inters := inters.filter (fun q => decide (q.1 ≤ p.1))
    if inters.length = 1 then true
    else
      let inters := inters.filter (fun q => !poly.contains q)
      inters.length % 2 ≠ 0

/-! ### distribute / process_rows -/

/-- `if len(r) == 0 or not (r[-1] == p): r[len(r)] = p`; the accumulator is kept reversed. -/
def pushNew (acc : List Pt) (p : Pt) : List Pt :=
  match acc with
  | [] => [p]
  | q :: _ => if q = p then acc else p :: acc

/-- The `while dist(current_x, x2) >= tolerance` loop with fuel; `none` = fuel exhausted. -/
def distLoop (c s tol step : Rat) (x2 : Pt) : Nat → Pt → List Pt → Option (List Pt)
  | 0, _, _ => none
  | fuel + 1, cur, acc =>
    if rowDist c s cur x2 ≥ tol then
      distLoop c s tol step x2 fuel (along c s cur step) (pushNew acc cur)
    else some acc

def distribute (c s spacing : Rat) (x1 x2 : Pt) (acc : List Pt) : Py (List Pt) :=
  let dx := rowDist c s x1 x2
  if dx < spacing then .ok (pushNew acc (mid x1 x2))
  else if spacing = 0 then .error .zeroDiv
  else
    let n : Int := (dx / spacing).floor
    if n = 0 then .error .zeroDiv
    else
      let step := dx / (n : Rat)
      match distLoop c s Gen.RowWise.distributeTol step x2 (n.toNat + 2) x1 acc with
      | none => .error .other
      | some [] => .error .keyError
      | some (q :: acc') => .ok (if q = x2 then q :: acc' else x2 :: q :: acc')

/-- `process_rows` with `no_go == []`. -/
def processRows (c s space : Rat) (sx ex : Pt) (acc : List Pt) : Py (List Pt) :=
  if space = 0 then .error .zeroDiv
  else if (rowDist c s sx ex / space).floor < 1 then .ok (pushNew acc (mid ex sx))
  else distribute c s space sx ex acc

/-! ### the per-row logic of gen_borehole_config -/

def close (tol : Rat) (p q : Pt) : Bool :=
  decide (ratAbs (p.1 - q.1) ≤ tol) && decide (ratAbs (p.2 - q.2) ≤ tol)

/-- "single intersection reported as two": when the first two are within the tolerance every
    other intersection within the tolerance of the first is dropped. -/
def dedupe (tol : Rat) : List Pt → List Pt
  | p :: q :: rest => if close tol p q then p :: (q :: rest).filter (fun r => !close tol p r) else p :: q :: rest
  | l => l

/-- Even number of intersections: pairs `(f[i], f[i+1])`, `i = 0, 2, …`, with the offset rule;
    `prev = none` for `i = 0` (where the code looks at `f[-1]` but requires `i > 0`). -/
def evenLoop (c s space : Rat) : Option Pt → List Pt → List Pt → Py (List Pt)
  | prev, p :: q :: rest, acc =>
    let drs := rowDist c s p q
    let seg : Pt × Pt :=
      match prev with
      | some r =>
        let dls := rowDist c s p r
        if dls < space then (along c s p dls, q)
        else if drs < space then (p, along c s q (-drs)) else (p, q)
      | none => if drs < space then (p, along c s q (-drs)) else (p, q)
    match processRows c s space seg.1 seg.2 acc with
    | .error e => .error e
    | .ok acc' => evenLoop c s space (some q) rest acc'
  | _, _, acc => .ok acc

/-- Odd number (≥ 3) of intersections: every consecutive pair whose midpoint is inside. -/
def oddLoop (poly : List Pt) (c s space : Rat) : List Pt → List Pt → Py (List Pt)
  | p :: q :: rest, acc =>
    if pointIntersect poly (mid p q) then
      match processRows c s space p q acc with
      | .error e => .error e
      | .ok acc' => oddLoop poly c s space (q :: rest) acc'
    else oddLoop poly c s space (q :: rest) acc
  | _, acc => .ok acc

def rowStep (poly : List Pt) (c s tol space : Rat) (row : Seg) (acc : List Pt) : Py (List Pt) :=
  let f := dedupe tol (lineIntersect poly row c s tol)
  if f.length % 2 = 0 then
    match f with
    | [p, q] => if rowDist c s p q < space then .ok (p :: acc) else evenLoop c s space none f acc
    | _ => evenLoop c s space none f acc
  else
    match f with
    | [p] => .ok (pushNew acc p)
    | _ => oddLoop poly c s space f acc

/-- The two points defining row `k`.  The row is vertical when `|row_space[1]| ≤ K·|row_space[0]|`
    with `K = Gen.RowWise.verticalRowRatio` regenerated from the source: `K = 0` is the test
    `row_space[1] == 0`; `K = 1e-12` makes `rotate = -pi/2` (cos = 6e-17 in floating point) a vertical
    row like `rotate = +pi/2`.  With exact `(c, s)` this is `|c| ≤ K·|s|`. -/
def rowSeg (lowest : Pt) (rs0 rs1 : Rat) (k : Nat) : Seg :=
  let px := lowest.1 + (k : Rat) * rs0
  let py := lowest.2 + (k : Rat) * rs1
  if ratAbs rs1 ≤ Gen.RowWise.verticalRowRatio * ratAbs rs0 then ⟨px, py, px, py + Gen.RowWise.pointShift⟩
  else ⟨px, py, px + Gen.RowWise.pointShift, py + (-rs0 / rs1) * Gen.RowWise.pointShift⟩

def rowsLoop (poly : List Pt) (c s tol space : Rat) (lowest : Pt) (rs0 rs1 : Rat) :
    List Nat → List Pt → Py (List Pt)
  | [], acc => .ok acc
  | k :: ks, acc =>
    match rowStep poly c s tol space (rowSeg lowest rs0 rs1 k) acc with
    | .error e => .error e
    | .ok acc' => rowsLoop poly c s tol space lowest rs0 rs1 ks acc'

/-! ### find_duplicates / remove_duplicates -/

/-- index `j` is dropped when some earlier point (dropped or not) is closer than `factor·space`. -/
def removeDupAux (tolSq : Rat) : List Pt → List Pt → List Pt
  | _, [] => []
  | seen, p :: ps =>
    if seen.any (fun q => decide (sqDist q p < tolSq)) then removeDupAux tolSq (p :: seen) ps
    else p :: removeDupAux tolSq (p :: seen) ps

def removeDuplicates (space : Rat) (l : List Pt) : List Pt :=
  removeDupAux ((space * Gen.RowWise.dupFactor) * (space * Gen.RowWise.dupFactor)) [] l

/-! ### gen_borehole_config -/

/-- Number of rows minus one and the row step, or the exception the code raises. -/
def rowPlan (poly : List Pt) (c s ySpace : Rat) : Py (Int × Pt × Rat × Rat) :=
  match extremes c s poly none none with
  | (some (lo, lowest), some (hi, _)) =>
    if ySpace = 0 then .error .zeroDiv
    else
      let d := hi - lo
      let numRows : Int := (d / ySpace).floor
      if numRows = 0 then .error .zeroDiv
      else
        let sp := d / (numRows : Rat)
        .ok (numRows, lowest, -1 * sp * s, sp * c)
  | _ => .error .valueError

def genBoreholeConfig (poly : List Pt) (ySpace xSpace c s tol : Rat) : Py (List Pt) :=
  match rowPlan poly c s ySpace with
  | .error e => .error e
  | .ok (numRows, lowest, rs0, rs1) =>
    match rowsLoop poly c s tol xSpace lowest rs0 rs1 (List.range (numRows + 1).toNat) [] with
    | .error e => .error e
    | .ok acc => .ok (removeDuplicates xSpace acc.reverse)

/-- Every row of the run has at most two intersections when their number is even (a line meets a
    convex outline in at most two points; a vertex hit adds a duplicate and makes the number odd).
    Hypothesis of the "inside" theorem; the harness measures it on every compared outline. -/
def rowsSimple (poly : List Pt) (ySpace c s tol : Rat) : Bool :=
  match rowPlan poly c s ySpace with
  | .ok (numRows, lowest, rs0, rs1) =>
    (List.range (numRows + 1).toNat).all (fun k =>
      decide ((dedupe tol (lineIntersect poly (rowSeg lowest rs0 rs1 k) c s tol)).length % 2 = 0 →
        (dedupe tol (lineIntersect poly (rowSeg lowest rs0 rs1 k) c s tol)).length ≤ 2))
  | .error _ => true

/-! ### field_optimization_fr: the rotation sweep -/

/-- `if len(hole) > max_l: max_l, max_hole, max_rt = …` over the tried rotations (index kept). -/
def sweepStep (best : Nat × Option (Nat × List Pt)) (idx : Nat) (hole : List Pt) : Nat × Option (Nat × List Pt) :=
  if hole.length > best.1 then (hole.length, some (idx, hole)) else best

def sweepLoop (gen : Rat × Rat → Py (List Pt)) : List (Rat × Rat) → Nat → Nat × Option (Nat × List Pt) →
    Py (Nat × Option (Nat × List Pt))
  | [], _, best => .ok best
  | r :: rs, idx, best =>
    match gen r with
    | .error e => .error e
    | .ok hole => sweepLoop gen rs (idx + 1) (sweepStep best idx hole)

/-- Returns the index of the chosen rotation and the field; `TypeError` when no rotation gave a
    borehole (`remove_duplicates(None, …)`). -/
def fieldOptimizationFr (poly : List Pt) (space tol : Rat) (rots : List (Rat × Rat)) : Py (Nat × List Pt) :=
  match sweepLoop (fun r => genBoreholeConfig poly space space r.1 r.2 tol) rots 0 (0, none) with
  | .error e => .error e
  | .ok (_, none) => .error .typeError
  | .ok (_, some (idx, hole)) => .ok (idx, removeDuplicates (space * Gen.RowWise.sweepDupFactor) hole)

/-- The sweep on field sizes only (used to compare the choice with the real sweep at arbitrary angles). -/
def sweepCounts : List Nat → Nat → Nat × Option Nat → Option Nat
  | [], _, best => best.2
  | n :: ns, idx, best => sweepCounts ns (idx + 1) (if n > best.1 then (n, some idx) else best)

/-- Number of passes of `while rt < rotate_stop: …; rt += rotate_step` (degrees); `none`: the loop
    never ends (`rotate_step ≤ 0` with `rotate_start < rotate_stop`). `ValueError` outside ±90°. -/
def numRotations (start stop step : Rat) : Py (Option Nat) :=
  if start > 90 ∨ start < -90 ∨ stop > 90 ∨ stop < -90 then .error .valueError
  else if ¬ start < stop then .ok (some 0)
  else if step ≤ 0 then .ok none
  else .ok (some ((stop - start) / step).ceil.toNat)

/-! ### float-fragility detector (instrumentation for the correspondence check, no theorem uses it)

  `fragile … = true` when some decision of the run on exact numbers lies so close to its boundary
  (relative `eps`) that IEEE rounding in the implementation may legitimately take the other branch:
  a `floor` argument next to an integer, `dist < spacing` next to equality, a tolerance test next to
  its tolerance, the exact `==` with a vertex inside `point_intersect`, or a row with an even
  number ≥ 4 of intersections (offset rule).  Such inputs are compared "up to the adjacent branch"
  (DESIGN §1.2b): they are reported as `near-boundary` and still go through the property predicate. -/

def nearInt (eps x : Rat) : Bool :=
  let r : Rat := ((x + 1/2).floor : Int)
  decide (ratAbs (x - r) ≤ eps * ratMax 1 (ratAbs x))

def nearVal (eps x v : Rat) : Bool := decide (ratAbs (x - v) ≤ eps * ratMax 1 (ratAbs v))

def edgeFragile (eps : Rat) (row : Seg) (tol : Rat) (e : Pt × Pt) : Bool :=
  let l1 : Seg := ⟨e.1.1, e.1.2, e.2.1, e.2.2⟩
  (match slope l1.x1 l1.y1 l1.x2 l1.y2, slope row.x1 row.y1 row.x2 row.y2 with
   | some (a1, _), some (a2, _) => nearVal eps (ratAbs (a1 - a2)) tol
   | none, none => nearVal eps (ratAbs (l1.x1 - row.x1)) tol
   | _, _ => false) ||
  (match vectorIntersect l1 row tol with
   | [r] =>
     nearVal eps (r.1 - ratMax e.2.1 e.1.1) tol || nearVal eps (r.1 - ratMin e.2.1 e.1.1) (-tol) ||
     nearVal eps (r.2 - ratMax e.2.2 e.1.2) tol || nearVal eps (r.2 - ratMin e.2.2 e.1.2) (-tol)
   | _ => false)

def consecutive {α} : List α → List (α × α)
  | a :: b :: rest => (a, b) :: consecutive (b :: rest)
  | _ => []

def pointIntersectFragile (poly : List Pt) (p : Pt) : Bool :=
  let xs := poly.map (·.1)
  let ys := poly.map (·.2)
  if p.1 > listMax xs ∨ p.1 < listMin xs ∨ p.2 > listMax ys ∨ p.2 < listMin ys then false
  else
    let farX := listMin xs - Gen.RowWise.farShift
    let inters := lineIntersect poly ⟨farX, p.2, farX + Gen.RowWise.farStep, p.2⟩ 1 0 Gen.RowWise.lineIntersectTol
    inters.any (fun q => decide (q.1 = p.1)) ||
      ((inters.filter (fun q => decide (q.1 ≤ p.1))).length ≠ 1 &&
        (inters.filter (fun q => decide (q.1 ≤ p.1))).any (fun q => poly.contains q))

def rowFragile (eps : Rat) (poly : List Pt) (c s tol space : Rat) (row : Seg) : Bool :=
  let raw := rawIntersections poly row tol
  let f := dedupe tol (sortIntersections c s raw)
  (edges poly).any (edgeFragile eps row tol) ||
  raw.any (fun p => raw.any (fun q => nearVal eps (ratAbs (p.1 - q.1)) tol || nearVal eps (ratAbs (p.2 - q.2)) tol)) ||
  (consecutive f).any (fun pq => pq.1 ≠ pq.2 && space ≠ 0 && nearInt eps (rowDist c s pq.1 pq.2 / space)) ||
  (f.length % 2 = 0 && decide (f.length ≥ 4)) ||
  (f.length % 2 = 1 && decide (f.length ≥ 3) &&
    ((consecutive f).any (fun pq => pq.1 ≠ pq.2 && pointIntersectFragile poly (mid pq.1 pq.2)) ||
     (consecutive (consecutive f)).any (fun t => t.1.1 ≠ t.1.2 && t.2.1 = t.2.2 &&
        decide (rowDist c s t.1.1 t.1.2 < space))))

def fragile (eps : Rat) (poly : List Pt) (ySpace xSpace c s tol : Rat) : Bool :=
  match extremes c s poly none none with
  | (some (lo, _), some (hi, _)) =>
    if ySpace = 0 then false
    else nearInt eps ((hi - lo) / ySpace) ||
      (match rowPlan poly c s ySpace with
       | .ok (numRows, lowest, rs0, rs1) =>
         (List.range (numRows + 1).toNat).any
           (fun k => rowFragile eps poly c s tol xSpace (rowSeg lowest rs0 rs1 k))
       | .error _ => false)
  | _ => false

/-! ### line protocol -/

def parseRats (l : List String) : Option (List Rat) := l.mapM parseRat?

def pairs : List Rat → Option (List Pt)
  | [] => some []
  | x :: y :: rest => (pairs rest).map ((x, y) :: ·)
  | _ => none

def showPts (l : List Pt) : String :=
  " ".intercalate (l.map (fun p => showRat p.1 ++ " " ++ showRat p.2))

/-- relative width of the "near-boundary" band. -/
def fragEps : Rat := 1 / 1000000000

def showPy (r : Py (List Pt)) : String :=
  match r with
  | .ok l => s!"ok {l.length} " ++ showPts l
  | .error .other => "diverges"
  | .error e => "raise " ++ e.name

/-- Commands:
    `rw_gen tol ySpace xSpace c s x1 y1 x2 y2 …`        → `ex|nb` `s1|s0` then `ok n x y …` | `raise E` | `diverges`
      (`nb`: near a branch boundary, see `fragile`; `s1`: `rowsSimple`)
    `rw_opt tol space k c1 s1 … ck sk x1 y1 …`            → `ex|nb ok idx n x y …`
    `rw_li tol c s rx1 ry1 rx2 ry2 x1 y1 …`               → sorted intersections of a line
    `rw_pin px py x1 y1 …`                                → `1`/`0` (`point_intersect`)
    `rw_sweep n1 n2 …`                                    → chosen index | `none`
    `rw_nrot start stop step`                             → number of rotations | `inf` | `raise E` -/
def cmd : List String → Option String
  | "rw_gen" :: args => some <| match parseRats args with
    | some (tol :: ys :: xs :: c :: s :: rest) =>
      (match pairs rest with
       | some poly =>
         if tol < 0 then "bad-arg"
         else (if fragile fragEps poly ys xs c s tol then "nb " else "ex ") ++
           (if rowsSimple poly ys c s tol then "s1 " else "s0 ") ++ showPy (genBoreholeConfig poly ys xs c s tol)
       | none => "bad-arg")
    | _ => "bad-arg"
  | "rw_opt" :: tolS :: spS :: kS :: rest => some <|
    match parseRat? tolS, parseRat? spS, kS.toNat?, parseRats rest with
    | some tol, some sp, some k, some nums =>
      (match pairs (nums.take (2 * k)), pairs (nums.drop (2 * k)) with
       | some rots, some poly =>
         if tol < 0 ∨ nums.length < 2 * k then "bad-arg" else
         (match fieldOptimizationFr poly sp tol rots with
          | .ok (idx, l) =>
            (if rots.any (fun r => fragile fragEps poly sp sp r.1 r.2 tol) then "nb " else "ex ") ++
              s!"ok {idx} {l.length} " ++ showPts l
          | .error .other => "diverges"
          | .error e => "raise " ++ e.name)
       | _, _ => "bad-arg")
    | _, _, _, _ => "bad-arg"
  | "rw_li" :: args => some <| match parseRats args with
    | some (tol :: c :: s :: a :: b :: d :: e :: rest) =>
      (match pairs rest with
       | some poly => let l := lineIntersect poly ⟨a, b, d, e⟩ c s tol; s!"ok {l.length} " ++ showPts l
       | none => "bad-arg")
    | _ => "bad-arg"
  | "rw_pin" :: args => some <| match parseRats args with
    | some (px :: py :: rest) =>
      (match pairs rest with
       | some poly => if pointIntersect poly (px, py) then "1" else "0"
       | none => "bad-arg")
    | _ => "bad-arg"
  | "rw_sweep" :: args => some <| match args.mapM String.toNat? with
    | some ns => (match sweepCounts ns 0 (0, none) with | some i => toString i | none => "none")
    | none => "bad-arg"
  | ["rw_nrot", a, b, d] => some <| match parseRat? a, parseRat? b, parseRat? d with
    | some a, some b, some d =>
      (match numRotations a b d with
       | .ok (some n) => toString n
       | .ok none => "inf"
       | .error e => "raise " ++ e.name)
    | _, _, _ => "bad-arg"
  | _ => none

end GHEVerif.RowWise
