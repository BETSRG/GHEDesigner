/-
  Model of ghedesigner/domains.py: `square_and_near_square`, `rectangular`, `bi_rectangular`,
  `bi_rectangle_nested`, `zoned_rectangle_domain`, `bi_rectangle_zoned_nested`, and of the line
  `n = floor(length / b) + 1` of `DesignNearSquare.__init__` (design.py).  Core Lean only.

  As in Model/Coords.lean every generator takes the rounding operator `R` (`id` = exact, the
  instance the theorems are about; `fl64` = what CPython computes).  What raises in Python
  returns `.error …` here: ZeroDivisionError for a zero spacing / a count of 1 used as
  `L / (n - 1)`, ValueError from `square_and_near_square` and `zoned_rectangle`, IndexError from
  `n_1_values[j]` on an empty range in `bi_rectangle_zoned_nested`.
-/
import GHEVerif.Model.Coords

namespace GHEVerif.Domains
open GHEVerif GHEVerif.Coords

def trIf (tr : Bool) (f : Field) : Field := if tr then transpose f else f

/-- `(x : int)` as a rational. -/
@[inline] def iq (n : Int) : Rat := (n : Rat)

/-! ### near-square -/

/-- `square_and_near_square(lower, upper, b)`. -/
def squareAndNearSquare (R : Rat → Rat) (lower upper : Int) (b : Rat) : Py (List Field) :=
  if lower < 1 ∨ upper < 1 then .error .valueError else
  if upper < lower then .error .valueError else
  .ok ((pyRange lower (upper + 1)).flatMap (fun i => [rectangle R i i b b, rectangle R i (i + 1) b b]))

/-- `DesignNearSquare.__init__`: `n = floor(length / b) + 1`, then
    `square_and_near_square(1, n, b)`. -/
def nearSquareN (R : Rat → Rat) (length b : Rat) : Int := (R (length / b)).floor + 1

def nearSquareDomain (R : Rat → Rat) (length b : Rat) : Py (List Field) :=
  if b = 0 then .error .zeroDiv else squareAndNearSquare R 1 (nearSquareN R length b) b

/-! ### rectangular -/

/-- `ceil(L / b_max + 1)`. -/
def nLow (R : Rat → Rat) (L bmax : Rat) : Int := (R (R (L / bmax) + 1)).ceil
/-- `floor(L / b_min + 1)`. -/
def nHigh (R : Rat → Rat) (L bmin : Rat) : Int := (R (R (L / bmin) + 1)).floor

/-- `b = length_1 / (num_borehole - 1)`. -/
def spacingOf (R : Rat → Rat) (L : Rat) (n : Int) : Rat := R (L / iq (n - 1))

/-- the argument of `n_2 = floor(length_2 / b + 1)`. -/
def rectN2Arg (R : Rat → Rat) (L1 L2 : Rat) (n : Int) : Rat := R (R (L2 / spacingOf R L1 n) + 1)

/-- The `_iter == 0` block of `rectangular`. -/
def rectPre (R : Rat → Rat) (tr : Bool) (nMin n2 : Int) (b : Rat) : List Field :=
  (pyRange 1 nMin).map (fun i => trIf tr (rectangle R i 1 b b))
  ++ (pyRange 1 n2).map (fun j => trIf tr (rectangle R nMin j b b))

/-- The `for num_borehole in range(n_min, n_max + 1)` loop; state: `n_2_old`, `_iter == 0`. -/
def rectLoop (R : Rat → Rat) (L1 L2 : Rat) (tr : Bool) (nMin : Int) : List Int → Int → Bool → List Field
  | [], _, _ => []
  | n :: rest, n2old, first =>
    let b := spacingOf R L1 n
    let n2 := (rectN2Arg R L1 L2 n).floor
    (if first then rectPre R tr nMin n2 b else [])
    ++ (if n2old = n2 then [] else [trIf tr (rectangle R n n2 b b)])
    ++ rectLoop R L1 L2 tr nMin rest n2 false

/-- `rectangular(length_x, length_y, b_min, b_max)`. -/
def rectangular (R : Rat → Rat) (Lx Ly bmin bmax : Rat) : Py (List Field) :=
  let L1 := if Lx ≥ Ly then Lx else Ly
  let L2 := if Lx ≥ Ly then Ly else Lx
  let tr := if Lx ≥ Ly then false else true
  if bmin = 0 ∨ bmax = 0 then .error .zeroDiv else
  let nMin := nLow R L1 bmax
  let nMax := nHigh R L1 bmin
  let ns := pyRange nMin (nMax + 1)
  if ns ≠ [] ∧ ((1 : Int) ∈ ns ∨ L1 = 0) then .error .zeroDiv else
  .ok (rectLoop R L1 L2 tr nMin ns 1 true)

/-! ### bi-rectangular -/

/-- `n_2 = ceil(round(length_2 / b_max_2, 9) + 1)`. -/
def biN2 (R : Rat → Rat) (L2 bmax2 : Rat) : Int := (R (round9 R (R (L2 / bmax2)) + 1)).ceil

/-- The `_iter == 0` block of `bi_rectangular`. -/
def biPre (R : Rat → Rat) (tr : Bool) (n1 n2 : Int) (b1 b2 : Rat) : List Field :=
  (pyRange 1 n1).map (fun i => trIf tr (rectangle R i 1 b1 b2))
  ++ (pyRange 1 n2).map (fun j => trIf tr (rectangle R n1 j b1 b2))

/-- `bi_rectangular(length_x, length_y, b_min, b_max_x, b_max_y, transpose)`. -/
def biRectangular (R : Rat → Rat) (Lx Ly bmin bmaxx bmaxy : Rat) (tr : Bool) : Py (List Field) :=
  let L1 := if Lx ≥ Ly then Lx else Ly
  let L2 := if Lx ≥ Ly then Ly else Lx
  let bmax1 := if Lx ≥ Ly then bmaxx else bmaxy
  let bmax2 := if Lx ≥ Ly then bmaxy else bmaxx
  if bmin = 0 ∨ bmax1 = 0 then .error .zeroDiv else
  let nMin := nLow R L1 bmax1
  let nMax := nHigh R L1 bmin
  let ns := pyRange nMin (nMax + 1)
  if ns = [] then .ok [] else
  if bmax2 = 0 then .error .zeroDiv else
  let n2 := biN2 R L2 bmax2
  if n2 - 1 = 0 ∨ (1 : Int) ∈ ns then .error .zeroDiv else
  let b2 := spacingOf R L2 n2
  .ok (biPre R tr nMin n2 (spacingOf R L1 nMin) b2
       ++ ns.map (fun n1 => trIf tr (rectangle R n1 n2 (spacingOf R L1 n1) b2)))

/-- `bi_rectangle_nested(length_x, length_y, b_min, b_max_x, b_max_y)`. -/
def biRectangleNested (R : Rat → Rat) (Lx Ly bmin bmaxx bmaxy : Rat) : Py (List (List Field)) :=
  let L1 := if Lx ≥ Ly then Lx else Ly
  let L2 := if Lx ≥ Ly then Ly else Lx
  let bmax1 := if Lx ≥ Ly then bmaxx else bmaxy
  let bmax2 := if Lx ≥ Ly then bmaxy else bmaxx
  let tr := if Lx ≥ Ly then false else true
  if bmin = 0 ∨ bmax2 = 0 then .error .zeroDiv else
  let nMin := nLow R L2 bmax2
  let nMax := nHigh R L2 bmin
  (pyRange nMin (nMax + 1)).mapM (fun n2 =>
    if n2 - 1 = 0 then .error .zeroDiv
    else biRectangular R L1 L2 bmin bmax1 (spacingOf R L2 n2) tr)

/-! ### zoned -/

/-- The `while n_i1 < (n_1 - 2) or n_i2 < (n_2 - 2)` loop of `zoned_rectangle_domain`.
    Fuel `n_1 + n_2` always suffices (each pass increases `n_i1 + n_i2`, and a pass beyond the
    bounds raises in `zoned_rectangle`). -/
def zonedLoop (R : Rat → Rat) (n1 n2 : Int) (b1 b2 : Rat) (tr : Bool) : Nat → Int → Int → Py (List Field)
  | 0, _, _ => .error .other
  | fuel + 1, ni1, ni2 =>
    if ni1 < n1 - 2 ∨ ni2 < n2 - 2 then
      if b2 = 0 then .error .zeroDiv else
      let ratio := R (b1 / b2)
      if ni1 + 1 = 0 ∨ ni2 + 2 = 0 then .error .zeroDiv else
      let bi1 := R (R (iq (n1 - 1) * b1) / iq (ni1 + 1))
      let bi2p1 := R (R (iq (n2 - 1) * b2) / iq (ni2 + 2))
      if bi2p1 = 0 then .error .zeroDiv else
      let ratio1 := R (bi1 / bi2p1)
      let ni1' := if ratio1 > ratio then ni1 + 1 else ni1
      let ni2' := if ratio1 > ratio then ni2 else ni2 + 1
      match zonedRectangle R n1 n2 b1 b2 ni1' ni2' with
      | .error e => .error e
      | .ok z =>
        match zonedLoop R n1 n2 b1 b2 tr fuel ni1' ni2' with
        | .error e => .error e
        | .ok rest => .ok (trIf tr z :: rest)
    else .ok []

/-- `zoned_rectangle_domain(length_x, length_y, n_x, n_y, transpose)`. -/
def zonedRectangleDomain (R : Rat → Rat) (Lx Ly : Rat) (nx ny : Int) (tr : Bool) : Py (List Field) :=
  let L1 := if Lx ≥ Ly then Lx else Ly
  let L2 := if Lx ≥ Ly then Ly else Lx
  let n1 := if Lx ≥ Ly then nx else ny
  let n2 := if Lx ≥ Ly then ny else nx
  if n1 - 1 = 0 ∨ n2 - 1 = 0 then .error .zeroDiv else
  let b1 := spacingOf R L1 n1
  let b2 := spacingOf R L2 n2
  match zonedRectangle R n1 n2 b1 b2 1 1 with
  | .error e => .error e
  | .ok z =>
    match zonedLoop R n1 n2 b1 b2 tr (n1.toNat + n2.toNat) 1 1 with
    | .error e => .error e
    | .ok rest => .ok (trIf tr z :: rest)

/-- The `(j, k)` index pairs visited by the main loop of `bi_rectangle_zoned_nested`. -/
def zPath (len1 len2 : Nat) : Nat → Nat → Nat → Nat → List (Nat × Nat)
  | 0, _, _, _ => []
  | cnt + 1, i, j, k =>
    (j, k) ::
      (if i % 2 = 0 then
        (if j + 1 < len1 then zPath len1 len2 cnt (i + 1) (j + 1) k else zPath len1 len2 cnt (i + 1) j (k + 1))
       else
        (if k + 1 < len2 then zPath len1 len2 cnt (i + 1) j (k + 1) else zPath len1 len2 cnt (i + 1) (j + 1) k))

/-- The `index_l == 0` block: one borehole → line → L → U → open rectangle. -/
def zonedPre (R : Rat → Rat) (tr : Bool) (nMin1 nMin2 : Int) (sx sy : Rat) : List Field :=
  (pyRange 1 (nMin1 + 1)).map (fun l => trIf tr (rectangle R l 1 sx sy))
  ++ (pyRange 2 (nMin2 + 1)).map (fun l => trIf tr (lShape R nMin1 l sx sy))
  ++ (pyRange 2 (nMin2 + 1)).map (fun l => trIf tr (lopU R nMin1 nMin2 sx sy l))
  ++ (pyRange 1 (nMin1 - 1)).map (fun l => trIf tr (cShape R nMin1 nMin2 sx sy l))

/-- `bi_rectangle_zoned_nested(length_x, length_y, b_min, b_max_x, b_max_y)`. -/
def biRectangleZonedNested (R : Rat → Rat) (Lx Ly bmin bmaxx bmaxy : Rat) : Py (List (List Field)) :=
  let L1 := if Lx ≥ Ly then Lx else Ly
  let L2 := if Lx ≥ Ly then Ly else Lx
  let bmax1 := if Lx ≥ Ly then bmaxx else bmaxy
  let bmax2 := if Lx ≥ Ly then bmaxy else bmaxx
  let tr := if Lx ≥ Ly then false else true
  if bmin = 0 ∨ bmax1 = 0 ∨ bmax2 = 0 then .error .zeroDiv else
  let nMin1 := nLow R L1 bmax1
  let nMax1 := nHigh R L1 bmin
  let nMin2 := nLow R L2 bmax2
  let nMax2 := nHigh R L2 bmin
  let n1s := pyRange nMin1 (nMax1 + 1)
  let n2s := pyRange nMin2 (nMax2 + 1)
  let iters := n1s.length + n2s.length - 1
  if iters = 0 then .ok [[]] else
  if nMin1 - 1 = 0 ∨ nMin2 - 1 = 0 then .error .zeroDiv else
  let pre := zonedPre R tr nMin1 nMin2 (spacingOf R L1 nMin1) (spacingOf R L2 nMin2)
  match (zPath n1s.length n2s.length iters 0 0 0).mapM (fun (jk : Nat × Nat) =>
      match n1s[jk.1]?, n2s[jk.2]? with
      | some a, some b => zonedRectangleDomain R L1 L2 a b tr
      | _, _ => .error .indexError) with
  | .error e => .error e
  | .ok parts => .ok [pre ++ parts.flatten]

/-! ### near-boundary detection (exact instance only; used by the driver; of these definitions the
  lemmas use only `nsOf`, the range of admissible counts)

  A case is *near a branch boundary* when some argument of `floor` / `ceil` lies within
  `1e-12` (relative) of an integer, the argument of `round(·, 9)` within `1e-3` of a tie in the
  ninth decimal, or the two sides of `ratio_1 > ratio` coincide.  Only there may binary64
  rounding take the other branch; the driver reports the flag and the harness accepts a
  different list shape between the two instances only when it is set. -/

def nearInt (q : Rat) : Bool :=
  let d := ratAbs (q - (roundHalfEven q : Rat))
  decide (d ≤ (1 / 1000000000000 : Rat) * ratMax 1 (ratAbs q))

def nearTie9 (q : Rat) : Bool :=
  let s := q * 1000000000
  let fr := s - (s.floor : Rat)
  decide (ratAbs (fr - 1 / 2) ≤ (1 / 1000 : Rat))

def nsOf (L bmin bmax : Rat) : List Int := pyRange (nLow id L bmax) (nHigh id L bmin + 1)

def nbNearSquare (length b : Rat) : Bool := nearInt (length / b)

def nbRectangular (Lx Ly bmin bmax : Rat) : Bool :=
  let L1 := if Lx ≥ Ly then Lx else Ly
  let L2 := if Lx ≥ Ly then Ly else Lx
  nearInt (L1 / bmax + 1) || nearInt (L1 / bmin + 1)
    || (nsOf L1 bmin bmax).any (fun n => nearInt (rectN2Arg id L1 L2 n))

def nbBiRectangular (L1 L2 bmin bmax1 bmax2 : Rat) : Bool :=
  nearInt (L1 / bmax1 + 1) || nearInt (L1 / bmin + 1) || nearTie9 (L2 / bmax2)

def nbNested (Lx Ly bmin bmaxx bmaxy : Rat) : Bool :=
  let L1 := if Lx ≥ Ly then Lx else Ly
  let L2 := if Lx ≥ Ly then Ly else Lx
  let bmax1 := if Lx ≥ Ly then bmaxx else bmaxy
  let bmax2 := if Lx ≥ Ly then bmaxy else bmaxx
  nearInt (L2 / bmax2 + 1) || nearInt (L2 / bmin + 1)
    || (nsOf L2 bmin bmax2).any (fun n2 => nbBiRectangular L1 L2 bmin bmax1 (spacingOf id L2 n2))

/-- exact tie `ratio_1 = ratio` somewhere along the `while` loop (integers only). -/
def zonedTie (n1 n2 : Int) : Nat → Int → Int → Bool
  | 0, _, _ => false
  | fuel + 1, ni1, ni2 =>
    if ni1 < n1 - 2 ∨ ni2 < n2 - 2 then
      let l := (n1 - 1) * (ni2 + 2)
      let r := (ni1 + 1) * (n2 - 1)
      if l = r then true
      else if l > r then zonedTie n1 n2 fuel (ni1 + 1) ni2 else zonedTie n1 n2 fuel ni1 (ni2 + 1)
    else false

def nbZoned (Lx Ly bmin bmaxx bmaxy : Rat) : Bool :=
  let L1 := if Lx ≥ Ly then Lx else Ly
  let L2 := if Lx ≥ Ly then Ly else Lx
  let bmax1 := if Lx ≥ Ly then bmaxx else bmaxy
  let bmax2 := if Lx ≥ Ly then bmaxy else bmaxx
  let n1s := nsOf L1 bmin bmax1
  let n2s := nsOf L2 bmin bmax2
  nearInt (L1 / bmax1 + 1) || nearInt (L1 / bmin + 1) || nearInt (L2 / bmax2 + 1) || nearInt (L2 / bmin + 1)
    || (zPath n1s.length n2s.length (n1s.length + n2s.length - 1) 0 0 0).any (fun jk =>
          match n1s[jk.1]?, n2s[jk.2]? with
          | some a, some b => zonedTie a b (a.toNat + b.toNat) 1 1
          | _, _ => false)

/-! ### line protocol -/

def hashField (f : Field) : UInt64 :=
  let bits (q : Rat) : UInt64 := (Float.ofInt q.num / Float.ofNat q.den).toBits
  f.foldl (fun h p => (h * 1099511628211 + bits p.1) * 1099511628211 + bits p.2) 1469598103934665603

def showShapeE : Py (List (List Field)) → String
  | .error e => "raise:" ++ e.name
  | .ok l => "ok:" ++ String.join (l.map (fun fs => ",".intercalate (fs.map (fun f => toString f.length)) ++ "|"))

def showShapeF : Py (List (List Field)) → String
  | .error e => "raise:" ++ e.name
  | .ok l => "ok:" ++ String.join (l.map (fun fs =>
      ",".intercalate (fs.map (fun f => toString f.length ++ ":" ++ toString (hashField f))) ++ "|"))

def devPoint (p q : Point) : Rat :=
  ratMax (ratAbs (p.1 - q.1) / ratMax 1 (ratAbs p.1)) (ratAbs (p.2 - q.2) / ratMax 1 (ratAbs p.2))

/-- max over all points of `|exact − binary64| / max(1, |exact|)`, when the shapes agree. -/
def deviation (e f : List (List Field)) : Option Rat :=
  if e.map (·.map List.length) = f.map (·.map List.length) then
    some <| (List.zip e.flatten.flatten f.flatten.flatten).foldl (fun m pq => ratMax m (devPoint pq.1 pq.2)) 0
  else none

/-- `S <near-boundary 0/1> <exact shape> <binary64 shape:hash> <max deviation or ->`. -/
def summary (nb : Bool) (e f : Py (List (List Field))) : String :=
  let dev := match e, f with
    | .ok a, .ok b => (match deviation a b with | some d => showRat d | none => "-")
    | _, _ => "-"
  s!"S {if nb then 1 else 0} {showShapeE e} {showShapeF f} {dev}"

def showFull : Py (List (List Field)) → String
  | .error e => "raise " ++ e.name
  | .ok l => "ok " ++ showNested l

def single (r : Py (List Field)) : Py (List (List Field)) := r.map (fun l => [l])

def gen (name : String) (R : Rat → Rat) (a : List Rat) (k : List Int) : Option (Py (List (List Field))) :=
  match name, a, k with
  | "ns", [length, b], [] => some (single (nearSquareDomain R length b))
  | "sq", [b], [lo, hi] => some (single (squareAndNearSquare R lo hi b))
  | "rect", [lx, ly, bmin, bmax], [] => some (single (rectangular R lx ly bmin bmax))
  | "birect", [lx, ly, bmin, sx, sy], [tr] => some (single (biRectangular R lx ly bmin sx sy (tr ≠ 0)))
  | "nest", [lx, ly, bmin, sx, sy], [] => some (biRectangleNested R lx ly bmin sx sy)
  | "zdom", [lx, ly], [nx, ny, tr] => some (single (zonedRectangleDomain R lx ly nx ny (tr ≠ 0)))
  | "zoned", [lx, ly, bmin, sx, sy], [] => some (biRectangleZonedNested R lx ly bmin sx sy)
  | _, _, _ => none

def nbOf (name : String) (a : List Rat) (k : List Int) : Bool :=
  match name, a, k with
  | "ns", [length, b], [] => nbNearSquare length b
  | "rect", [lx, ly, bmin, bmax], [] => nbRectangular lx ly bmin bmax
  | "birect", [lx, ly, bmin, sx, sy], [_] =>
      if lx ≥ ly then nbBiRectangular lx ly bmin sx sy else nbBiRectangular ly lx bmin sy sx
  | "nest", [lx, ly, bmin, sx, sy], [] => nbNested lx ly bmin sx sy
  | "zdom", [lx, ly], [nx, ny, _] =>
      let n1 := if lx ≥ ly then nx else ny
      let n2 := if lx ≥ ly then ny else nx
      zonedTie n1 n2 (n1.toNat + n2.toNat) 1 1
  | "zoned", [lx, ly, bmin, sx, sy], [] => nbZoned lx ly bmin sx sy
  | _, _, _ => false

/-- `dom <gen> <E|F|S> <nrat> r… k…`: the generator `gen` on `nrat` rationals followed by
    integers; `E`/`F` print every coordinate of the exact / binary64 instance, `S` the summary. -/
def cmd : List String → Option String
  | "dom" :: name :: mode :: nr :: rest => some <|
      match nr.toNat? with
      | none => "bad-arg"
      | some nr =>
        match parseRats (rest.take nr), parseInts (rest.drop nr) with
        | some a, some k =>
          if mode = "S" then
            match gen name id a k, gen name fl64 a k with
            | some e, some f => summary (nbOf name a k) e f
            | _, _ => "bad-arg"
          else
            match pickR mode with
            | none => "bad-arg"
            | some R => (match gen name R a k with | some r => showFull r | none => "bad-arg")
        | _, _ => "bad-arg"
  | _ => none

end GHEVerif.Domains
